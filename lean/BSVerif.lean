import BSVerif.Basic
import BSVerif.IntCast
import BSVerif.Generated.ChronoConsts
import BSVerif.Generated.CsvConsts
import BSVerif.Generated.UtfConsts
import BSVerif.Generated.MsgpackConsts
import BSVerif.Generated.InventoryConsts
import BSVerif.Generated.JsonxmlConsts
import BSVerif.Generated.NumConsts
import BSVerif.Generated.TextvalidConsts
import BSVerif.Generated.ValidConsts
import BSVerif.Generated.ValidenumConsts
import BSVerif.Utf.Spec
import BSVerif.Utf.Model
import BSVerif.Utf.Oracle
import BSVerif.Utf.Stream
import BSVerif.Utf.StreamOracle
import BSVerif.Utf.Lemmas
import BSVerif.Utf.Shape
import BSVerif.Utf.Run
import BSVerif.Utf.Heads
import BSVerif.Utf.Progress
import BSVerif.Utf.EncBytes
import BSVerif.Utf.LosslessTrunc
import BSVerif.Utf.Lossless
import BSVerif.Utf.LosslessDetect
import BSVerif.BinStream.Model
import BSVerif.BinStream.Lemmas
import BSVerif.BinStream.Oracle
import BSVerif.MsgPack.Spec
import BSVerif.MsgPack.Writer
import BSVerif.MsgPack.Ieee
import BSVerif.MsgPack.Oracle
import BSVerif.MsgPack.Reader
import BSVerif.MsgPack.StreamReader
import BSVerif.MsgPack.StreamWriter
import BSVerif.MsgPack.IntConv
import BSVerif.MsgPack.Lemmas
import BSVerif.MsgPack.TableLemmas
import BSVerif.MsgPack.TokenLemmas
import BSVerif.MsgPack.SkipLemmas
import BSVerif.MsgPack.SpecLemmas
import BSVerif.MsgPack.ReadLemmas
import BSVerif.MsgPack.StreamLemmas
import BSVerif.MsgPack.StreamSim
import BSVerif.MsgPack.WriterLemmas
import BSVerif.Scope.Model
import BSVerif.Scope.Spec
import BSVerif.Scope.VarKey
import BSVerif.Scope.Lemmas
import BSVerif.Scope.Cursor
import BSVerif.Scope.Machine
import BSVerif.Num.Ieee
import BSVerif.Num.Types
import BSVerif.Num.Spec
import BSVerif.Num.FloatText
import BSVerif.Num.Model
import BSVerif.Num.Oracle
import BSVerif.Num.IntLemmas
import BSVerif.Num.Lemmas
import BSVerif.Num.NanLemmas
import BSVerif.Num.TextLemmas
import BSVerif.Num.WideLemmas
import BSVerif.Csv.Common
import BSVerif.Csv.Reader
import BSVerif.Csv.Abstract
import BSVerif.Csv.Result
import BSVerif.Csv.Slice
import BSVerif.Csv.AbsBasic
import BSVerif.Csv.Spec
import BSVerif.Csv.SpecLemmas
import BSVerif.Csv.AbstractLemmas
import BSVerif.Csv.StreamReader
import BSVerif.Csv.Writer
import BSVerif.Csv.Archive
import BSVerif.Csv.Oracle
import BSVerif.Csv.ScanLemmas
import BSVerif.Csv.ReaderLemmas
import BSVerif.Csv.SessionLemmas
import BSVerif.Csv.SpecComplete
import BSVerif.Csv.StreamLemmas
import BSVerif.Csv.StreamSim
import BSVerif.Csv.WriterLemmas
import BSVerif.Chrono.Calendar
import BSVerif.Chrono.Model
import BSVerif.Chrono.IntRep
import BSVerif.Chrono.Durations
import BSVerif.Chrono.Fractions
import BSVerif.Chrono.Hinnant
import BSVerif.Chrono.Lemmas
import BSVerif.Chrono.LiteralDivisor
import BSVerif.Chrono.Spec
import BSVerif.Chrono.Oracle
import BSVerif.Chrono.SafeCast
import BSVerif.Chrono.SafeAdd
import BSVerif.Chrono.ParseTp
import BSVerif.Chrono.PrintTp
import BSVerif.Chrono.RoundTrip
import BSVerif.Valid.Model
import BSVerif.Valid.Spec
import BSVerif.Valid.TextSpec
import BSVerif.Valid.TextValidators
import BSVerif.Valid.TextLemmas
import BSVerif.Valid.Lemmas
import BSVerif.Cont.Model
import BSVerif.Cont.Lemmas
import BSVerif.Cont.Spec
import BSVerif.Conc.Model
import BSVerif.Fault.Model
import BSVerif.Fault.Lemmas
import BSVerif.Adapter.Basic
import BSVerif.Adapter.Num
import BSVerif.Adapter.IntLemmas
import BSVerif.Adapter.JsonModel
import BSVerif.Adapter.JsonText
import BSVerif.Adapter.Spec
import BSVerif.Adapter.Lemmas
import BSVerif.Adapter.NumText
import BSVerif.Adapter.XmlModel
import BSVerif.Adapter.XmlSpec
import BSVerif.Adapter.XmlLemmas
import BSVerif.Adapter.XmlText
import BSVerif.Props.C10bin
import BSVerif.Props.C03
import BSVerif.Props.C05Scope
import BSVerif.Props.C05
import BSVerif.Props.C06
import BSVerif.Props.C07
import BSVerif.Props.C08
import BSVerif.Props.C09
import BSVerif.Props.C10csv
import BSVerif.Props.C10mp
import BSVerif.Props.C10
import BSVerif.Props.C11
import BSVerif.Props.C13Detect
import BSVerif.Props.C13Writer
import BSVerif.Props.C13Lossless
import BSVerif.Props.C13
import BSVerif.Props.C16
import BSVerif.Props.C01
import BSVerif.Props.C12
import BSVerif.Props.C20
import BSVerif.Props.C02
import BSVerif.Props.C04
import BSVerif.Props.C14
import BSVerif.Props.C15
import BSVerif.Props.C17Text
import BSVerif.Props.C17
import BSVerif.Props.C18
import BSVerif.Props.C19
import BSVerif.Driver.Adapter
import BSVerif.Driver.BinStream
import BSVerif.Driver.Chrono
import BSVerif.Driver.Scope
import BSVerif.Driver.Cont
import BSVerif.Driver.Csv
import BSVerif.Driver.Fault
import BSVerif.Driver.Load
import BSVerif.Driver.MpObj
import BSVerif.Driver.MsgPack
import BSVerif.Driver.Num
import BSVerif.Driver.Utf
import BSVerif.Driver.UtfStream
import BSVerif.Driver.Valid
import BSVerif.Driver.WStr
import BSVerif.Driver.All
