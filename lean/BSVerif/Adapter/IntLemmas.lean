/-
  The C++ integer types of the adapters: `IntTy.wrap` is `IntCast.wrap`, `IntTy.inRange` is `IntCast.InRange`,
  and `Convert::Detail::To` between two of them is the range test (`IntCast.castBack_iff`).
-/
import BSVerif.Adapter.Num
import BSVerif.IntCast

namespace BSVerif.Adapter

namespace IntTy

theorem bits_pos (t : IntTy) : 0 < t.bits := by cases t <;> decide

theorem half_pos (t : IntTy) : (0 : Int) < 2 ^ (t.bits - 1) := IntCast.two_pow_pos _

theorem wrap_eq (t : IntTy) (v : Int) : t.wrap v = IntCast.wrap t.signed (2 ^ (t.bits - 1)) v := by
  simp only [wrap, IntCast.wrap, IntCast.two_pow_bits t.bits_pos, Bool.and_eq_true, decide_eq_true_eq]

theorem inRange_iff (t : IntTy) (v : Int) : t.inRange v = true ↔ IntCast.InRange t.signed (2 ^ (t.bits - 1)) v := by
  simp only [inRange, Bool.and_eq_true, decide_eq_true_eq]
  simp only [min, max, IntCast.InRange, IntCast.two_pow_bits t.bits_pos]

theorem wrap_eq_self {t : IntTy} {v : Int} (h : t.inRange v = true) : t.wrap v = v := by
  rw [wrap_eq, IntCast.wrap_of_mem t.half_pos ((t.inRange_iff v).1 h)]

theorem wrap_inRange (t : IntTy) (v : Int) : t.inRange (t.wrap v) = true := by
  rw [inRange_iff, wrap_eq]; exact IntCast.wrap_mem t.half_pos

theorem inRange_i64 {v : Int} : IntTy.i64.inRange v = true ↔ -(2 ^ 63 : Int) ≤ v ∧ v ≤ 2 ^ 63 - 1 := by
  simp only [inRange, Bool.and_eq_true, decide_eq_true_eq]; rfl

theorem inRange_u64 {v : Int} : IntTy.u64.inRange v = true ↔ 0 ≤ v ∧ v < (2 ^ 64 : Int) := by
  simp only [inRange, Bool.and_eq_true, decide_eq_true_eq]
  exact and_congr Iff.rfl Int.le_sub_one_iff

theorem inRange_mono {s t : IntTy} {v : Int} (hmin : t.min ≤ s.min) (hmax : s.max ≤ t.max) (h : s.inRange v = true) :
    t.inRange v = true := by
  simp only [inRange, Bool.and_eq_true, decide_eq_true_eq] at h ⊢
  exact ⟨Int.le_trans hmin h.1, Int.le_trans h.2 hmax⟩

/-- every type lies within the union of `int64_t` and `uint64_t`, the integers a RapidJSON number holds -/
theorem inRange_json {t : IntTy} {v : Int} (h : t.inRange v = true) : -(2 ^ 63 : Int) ≤ v ∧ v < (2 ^ 64 : Int) := by
  have hb : -(2 ^ 63 : Int) ≤ t.min ∧ t.max < (2 ^ 64 : Int) := by cases t <;> decide
  simp only [inRange, Bool.and_eq_true, decide_eq_true_eq] at h
  omega

end IntTy

/-- cast, cast back, compare, sign check (convert_fundamental.h:56-63) = range test -/
theorem convIntToInt_spec (src tgt : IntTy) (v : Int) (hv : src.inRange v = true) :
    convIntToInt src tgt v = if tgt.inRange v then .ok v else .error .outOfRange := by
  unfold convIntToInt
  by_cases he : src = tgt
  · rw [if_pos he, ← he, hv, if_pos rfl]
  · -- `result` of `convIntToInt` as a proposition ↔ the range test
    have hiff := (IntCast.castBack_iff (ts := tgt.signed) src.half_pos tgt.half_pos ((src.inRange_iff v).1 hv)).trans
      (tgt.inRange_iff v).symm
    simp only [he, if_false, IntTy.wrap_eq, Bool.and_eq_true, Bool.not_eq_true', ← Bool.not_eq_true, Bool.or_eq_true,
      decide_eq_true_eq]
    by_cases h : tgt.inRange v = true
    · rw [if_pos (hiff.2 h), if_pos h, ← IntTy.wrap_eq, IntTy.wrap_eq_self h]
    · rw [if_neg (mt hiff.1 h), if_neg h]

end BSVerif.Adapter
