/-
  The JSON adapter against its specification: the DOM built for a value is the value's data model, a leaf load is
  `expectLeaf`, the load of a document with distinct names into a map-free type is `expectLoad`, loading the DOM
  built for a value gives the value back, and the member order of an object is immaterial.
-/
import BSVerif.Adapter.JsonModel
import BSVerif.Adapter.Spec
import BSVerif.Adapter.IntLemmas

namespace BSVerif.Adapter
open JsonModel Spec

theorem ofScalar_eq (s : Scalar) : ofScalar s = scalarDom s := by cases s <;> rfl

mutual
theorem domOf_build : ∀ v : Val, DomOf v (build v)
  | .sc s => by rw [build, ofScalar_eq]; exact DomOf.sc s
  | .none => by rw [build]; exact DomOf.none
  | .arr items => by rw [build]; exact DomOf.arr (domOfList_build items)
  | .obj fs => by rw [build]; exact DomOf.obj (domOfFields_build fs)
theorem domOfList_build : ∀ l : List Val, DomOfList l (buildList l)
  | [] => by rw [buildList]; exact DomOfList.nil
  | v :: r => by rw [buildList]; exact DomOfList.cons (domOf_build v) (domOfList_build r)
theorem domOfFields_build : ∀ l : List (Bool × Str × Val), DomOfFields l (buildFields l)
  | [] => by rw [buildFields]; exact DomOfFields.nil
  | (a, k, v) :: r => by rw [buildFields]; exact DomOfFields.cons (domOf_build v) (domOfFields_build r)
end

/-- the integers a RapidJSON number can hold (kInt64Flag or kUint64Flag) -/
def JsonIntRange : Json → Prop
  | .int v => -(2 ^ 63 : Int) ≤ v ∧ v < (2 ^ 64 : Int)
  | _ => True

/-- a conversion that succeeds exactly on `c`, seen through `ConvertByPolicy` -/
theorem byPolicy_map_ite {α : Type} (o : Opts) (c : Bool) (C : α → Scalar) (y : α) :
    byPolicy o ((if c then Except.ok y else .error ConvErr.outOfRange).map C) = exactOrPolicy o c (C y) := by
  cases c <;> rfl

theorem convIntToBool_spec (v : Int) :
    convIntToBool v = if decide (v = 0 ∨ v = 1) then .ok (decide (v = 1)) else .error .outOfRange := by
  unfold convIntToBool
  by_cases h0 : v = 0
  · subst h0; rfl
  · by_cases h1 : v = 1
    · subst h1; rfl
    · simp only [ne_eq, h0, not_false_eq_true, decide_true, if_true, h1, or_self, decide_false, Bool.false_eq_true, if_false]
      rw [if_neg (Ne.symm h1)]

theorem convF64ToF32_spec (b : Nat) :
    convF64ToF32 b = if inF32Range b then .ok (f32RoundOfF64 b) else .error .outOfRange := by
  simp only [convF64ToF32, inF32Range, decide_eq_true_eq]

theorem loadValue_int (o : Opts) (ty : IntTy) (v : Int) (h : -(2 ^ 63 : Int) ≤ v ∧ v < (2 ^ 64 : Int)) :
    loadValue o (.int ty) (.int v) = exactOrPolicy o (ty.inRange v) (.int ty v) := by
  simp only [loadValue]
  by_cases hle : v ≤ int64Max
  · rw [if_pos hle, convIntToInt_spec .i64 ty v (IntTy.inRange_i64.2 ⟨h.1, hle⟩), byPolicy_map_ite]
  · rw [if_neg hle, convIntToInt_spec .u64 ty v (IntTy.inRange_u64.2 ⟨by unfold int64Max at hle; omega, h.2⟩), byPolicy_map_ite]

theorem loadValue_eq_expectLeaf (o : Opts) (t : LeafTy) (j : Json) (hj : JsonIntRange j) :
    loadValue o t j = expectLeaf o t j := by
  cases t with
  | bool =>
    cases j with
    | int v => simp only [loadValue, expectLeaf, convIntToBool_spec, byPolicy_map_ite]
    | _ => rfl
  | int ty =>
    cases j with
    | int v => exact loadValue_int o ty v hj
    | _ => rfl
  | f32 =>
    cases j with
    | int v => simp only [loadValue, expectLeaf, convF64ToF32_spec, byPolicy_map_ite]
    | dbl b => simp only [loadValue, expectLeaf, convF64ToF32_spec, byPolicy_map_ite]
    | _ => rfl
  | _ => cases j <;> rfl

mutual
/-- every object of the tree has distinct names; every integer is one RapidJSON can hold -/
def jsonOk : Json → Bool
  | .int v => decide (-(2 ^ 63 : Int) ≤ v ∧ v < (2 ^ 64 : Int))
  | .arr items => jsonListOk items
  | .obj ms => membersOk ms && decide ((ms.map Prod.fst).Nodup)
  | _ => true
def jsonListOk : List Json → Bool
  | [] => true
  | j :: r => jsonOk j && jsonListOk r
def membersOk : List (Str × Json) → Bool
  | [] => true
  | (_, j) :: r => jsonOk j && membersOk r
end

mutual
/-- no `std::map` anywhere in the target type: the types `load_meets_spec` covers -/
def noMap : Schema → Bool
  | .leaf _ => true
  | .vec e => noMap e
  | .cls fs => noMapFields fs
  | .map _ => false
  | .opt e => noMap e
def noMapFields : List (Bool × Str × Schema) → Bool
  | [] => true
  | (_, _, s) :: r => noMap s && noMapFields r
end

theorem lookupUnique_eq_findMember (k : Str) (ms : List (Str × Json)) (h : (ms.map Prod.fst).Nodup) :
    lookupUnique k ms = some (findMember k ms) := by
  induction ms with
  | nil => rfl
  | cons m r ih =>
    obtain ⟨k', j⟩ := m
    simp only [List.map_cons, List.nodup_cons] at h
    by_cases e : k' = k
    · subst e
      have hf : r.filter (fun m => m.1 == k') = [] :=
        List.filter_eq_nil_iff.2 fun m hm hk => h.1 (List.mem_map.2 ⟨m, hm, beq_iff_eq.1 hk⟩)
      simp only [lookupUnique, List.filter_cons, beq_self_eq_true, if_true, hf, findMember]
    · have hb : (k' == k) = false := beq_eq_false_iff_ne.2 e
      have := ih h.2
      simp only [lookupUnique, List.filter_cons, hb, Bool.false_eq_true, if_false, findMember, e] at this ⊢
      exact this

theorem membersOk_find (k : Str) (ms : List (Str × Json)) (h : membersOk ms = true) (d : Json) (hd : findMember k ms = some d) :
    jsonOk d = true := by
  induction ms with
  | nil => simp [findMember] at hd
  | cons m r ih =>
    obtain ⟨k', j⟩ := m
    simp only [membersOk, Bool.and_eq_true] at h
    simp only [findMember] at hd
    split at hd
    · cases hd; exact h.1
    · exact ih h.2 hd

theorem jsonListOk_mem (items : List Json) (h : jsonListOk items = true) (j : Json) (hj : j ∈ items) : jsonOk j = true := by
  induction items with
  | nil => simp at hj
  | cons x r ih =>
    simp only [jsonListOk, Bool.and_eq_true] at h
    rcases List.mem_cons.mp hj with rfl | hm
    · exact h.1
    · exact ih h.2 hm

theorem expectItems_eq (f : Json → Option (Except Err LVal)) (g : Json → Except Err LVal) (items : List Json)
    (h : ∀ j ∈ items, f j = some (g j)) : expectItems f items = some (items.mapM g) := by
  induction items with
  | nil => rfl
  | cons j r ih =>
    simp only [expectItems, h j List.mem_cons_self, ih fun x hx => h x (List.mem_cons_of_mem _ hx), List.mapM_cons]
    cases g j with
    | error e => rfl
    | ok v => cases List.mapM g r <;> rfl

mutual
theorem load_meets_spec (o : Opts) : ∀ (s : Schema) (j : Option Json), noMap s = true → (∀ d, j = some d → jsonOk d = true) →
    expectLoad o s j = some (load o s j)
  | .leaf t, none, _, _ => by simp only [expectLoad, load]
  | .leaf t, some j, _, hj => by
    have hr : JsonIntRange j := by
      cases j with
      | int v => simpa only [jsonOk, decide_eq_true_eq, JsonIntRange] using hj _ rfl
      | _ => trivial
    simp only [expectLoad, load, ← loadValue_eq_expectLeaf o t j hr]
    cases loadValue o t j with
    | error e => rfl
    | ok r => cases r <;> rfl
  | .vec e, none, _, _ => by simp only [expectLoad, load]
  | .vec e, some j, hm, hj => by
    cases j with
    | arr items =>
      have hok : jsonListOk items = true := by simpa only [jsonOk] using hj _ rfl
      have hme : noMap e = true := by simpa only [noMap] using hm
      have hitem : ∀ x ∈ items, expectLoad o e (some x) = some (load o e (some x)) := fun x hx =>
        load_meets_spec o e (some x) hme fun d hd => by cases hd; exact jsonListOk_mem items hok x hx
      have hi := expectItems_eq (fun j => expectLoad o e (some j)) (fun j => load o e (some j)) items hitem
      simp only [expectLoad, load, hi]
      cases List.mapM (fun j => load o e (some j)) items <;> rfl
    | _ => rfl
  | .cls fs, none, _, _ => by simp only [expectLoad, load]
  | .cls fs, some j, hm, hj => by
    cases j with
    | obj ms =>
      have hok := hj _ rfl
      simp only [jsonOk, Bool.and_eq_true, decide_eq_true_eq] at hok
      have hf := fields_meet_spec o fs ms (by simpa only [noMap] using hm) hok.1 hok.2
      simp only [expectLoad, load, hf]
      cases loadFields o fs ms <;> rfl
    | _ => rfl
  | .map e, _, hm, _ => by simp only [noMap, Bool.false_eq_true] at hm
  | .opt e, j, hm, hj => by
    have ih := load_meets_spec o e j (by simpa only [noMap] using hm) hj
    simp only [expectLoad, load, ih]
    cases load o e j with
    | error err => rfl
    | ok v => cases v <;> rfl
theorem fields_meet_spec (o : Opts) : ∀ (fs : List (Bool × Str × Schema)) (ms : List (Str × Json)), noMapFields fs = true →
    membersOk ms = true → (ms.map Prod.fst).Nodup → expectFields o fs ms = some (loadFields o fs ms)
  | [], ms, _, _, _ => by simp only [expectFields, loadFields]
  | (a, k, s) :: r, ms, hm, hok, hnd => by
    simp only [noMapFields, Bool.and_eq_true] at hm
    have h1 := load_meets_spec o s (findMember k ms) hm.1 (fun d hd => membersOk_find k ms hok d hd)
    have h2 := fields_meet_spec o r ms hm.2 hok hnd
    simp only [expectFields, loadFields, lookupUnique_eq_findMember k ms hnd, h1, h2]
    cases load o s (findMember k ms) with
    | error e => rfl
    | ok v => cases loadFields o r ms <;> rfl
end

/-- scalars that survive the DOM: integers within their C++ type, floats that come back from their double -/
def scalarOk : Scalar → Bool
  | .int t v => t.inRange v
  | .f32 b => (match convF64ToF32 (f64OfF32 b) with | .ok b' => b' == b | .error _ => false)
  | _ => true

/-- loading JSON `null` into this target leaves it unset / resets the optional -/
def nullNone : Schema → Bool
  | .leaf t => t != .null
  | .opt e => nullNone e
  | _ => true

mutual
/-- the value has the shape of the (map-free) target type and is representable -/
def conforms : Schema → Val → Bool
  | .leaf t, .sc s => s.ty == t && scalarOk s
  | .vec e, .arr items => conformsList e items
  | .cls fs, .obj fields => conformsFields fs fields && decide ((fields.map fun f => f.2.1).Nodup)
  | .opt e, .none => nullNone e
  | .opt e, v => conforms e v
  | _, _ => false
def conformsList (e : Schema) : List Val → Bool
  | [] => true
  | v :: r => conforms e v && conformsList e r
def conformsFields : List (Bool × Str × Schema) → List (Bool × Str × Val) → Bool
  | [], [] => true
  | (_, k, s) :: r, (_, k', v) :: r' => k == k' && conforms s v && conformsFields r r'
  | _, _ => false
end

mutual
/-- the value as a freshly loaded target shows it -/
def expected : Schema → Val → LVal
  | .leaf _, .sc s => .sc s
  | .vec e, .arr items => .arr (expectedList e items)
  | .cls fs, .obj fields => .obj (expectedFields fs fields)
  | .opt _, .none => .none
  | .opt e, v => expected e v
  | _, _ => .unset
def expectedList (e : Schema) : List Val → List LVal
  | [] => []
  | v :: r => expected e v :: expectedList e r
def expectedFields : List (Bool × Str × Schema) → List (Bool × Str × Val) → List LVal
  | (_, _, s) :: r, (_, _, v) :: r' => expected s v :: expectedFields r r'
  | _, _ => []
end

theorem loadValue_of_scalar (o : Opts) (s : Scalar) (h : scalarOk s = true) :
    loadValue o s.ty (ofScalar s) = .ok (some s) := by
  cases s with
  | int t v =>
    simp only [scalarOk] at h
    simp only [Scalar.ty, ofScalar]
    rw [loadValue_int o t v (IntTy.inRange_json h), h]
    rfl
  | f32 b =>
    simp only [scalarOk] at h
    simp only [loadValue, ofScalar, Scalar.ty]
    cases hc : convF64ToF32 (f64OfF32 b) with
    | error e => simp only [hc, Bool.false_eq_true] at h
    | ok b' =>
      simp only [hc, beq_iff_eq] at h
      subst h
      rfl
  | _ => rfl

theorem findMember_buildFields (fields : List (Bool × Str × Val)) (hnd : (fields.map fun f => f.2.1).Nodup) :
    ∀ f ∈ fields, findMember f.2.1 (buildFields fields) = some (build f.2.2) := by
  induction fields with
  | nil => intro f hf; simp at hf
  | cons g r ih =>
    obtain ⟨a, k, v⟩ := g
    simp only [List.map_cons, List.nodup_cons] at hnd
    intro f hf
    rcases List.mem_cons.mp hf with rfl | hm
    · simp [buildFields, findMember]
    · have hne : k ≠ f.2.1 := by
        intro e
        apply hnd.1
        rw [e]
        exact List.mem_map.mpr ⟨f, hm, rfl⟩
      simp only [buildFields, findMember, hne, if_false]
      exact ih hnd.2 f hm

theorem expected_opt {e : Schema} {v : Val} (hv : v ≠ .none) : expected (.opt e) v = expected e v := by
  cases v with
  | none => exact absurd rfl hv
  | _ => simp only [expected]

theorem conforms_opt {e : Schema} {v : Val} (hv : v ≠ .none) : conforms (.opt e) v = conforms e v := by
  cases v with
  | none => exact absurd rfl hv
  | _ => simp only [conforms]

theorem load_opt_of_ok {o : Opts} {e : Schema} {j : Option Json} {v : LVal} (h : load o e j = .ok v) (hv : v ≠ .unset) :
    load o (.opt e) j = .ok v := by
  simp only [load, h]
  cases v with
  | unset => exact absurd rfl hv
  | _ => rfl

theorem load_opt_of_unset {o : Opts} {e : Schema} {j : Option Json} (h : load o e j = .ok .unset) :
    load o (.opt e) j = .ok .none := by
  simp only [load, h]; rfl

theorem load_null (o : Opts) : ∀ (e : Schema), nullNone e = true →
    load o e (some .null) = .ok .unset ∨ load o e (some .null) = .ok .none
  | .leaf t, h => by
    have ht : t ≠ .null := by simpa [nullNone] using h
    left
    cases t with
    | null => exact absurd rfl ht
    | _ => simp only [load, loadValue]; rfl
  | .vec e, _ => .inl (by simp only [load]; rfl)
  | .cls fs, _ => .inl (by simp only [load]; rfl)
  | .map e, _ => .inl (by simp only [load]; rfl)
  | .opt e, h => by
    right
    rcases load_null o e (by simpa only [nullNone] using h) with ih | ih
    · exact load_opt_of_unset ih
    · exact load_opt_of_ok ih LVal.noConfusion

theorem expected_ne_unset : ∀ (s : Schema) (v : Val), conforms s v = true → expected s v ≠ .unset
  | .leaf t, v, h => by
    -- `conforms` fails unless `v` has the constructor that goes with the type, and there `expected` is not `.unset`
    cases v <;> simp only [conforms, Bool.false_eq_true] at h
    simp only [expected]; exact LVal.noConfusion
  | .vec e, v, h => by
    cases v <;> simp only [conforms, Bool.false_eq_true] at h
    simp only [expected]; exact LVal.noConfusion
  | .cls fs, v, h => by
    cases v <;> simp only [conforms, Bool.false_eq_true] at h
    simp only [expected]; exact LVal.noConfusion
  | .map e, v, h => by cases v <;> simp only [conforms, Bool.false_eq_true] at h
  | .opt e, v, h => by
    by_cases hv : v = .none
    · subst hv; simp only [expected]; exact LVal.noConfusion
    · rw [expected_opt hv]; exact expected_ne_unset e v (by rwa [conforms_opt hv] at h)

theorem loadList_build (o : Opts) (e : Schema) (ih : ∀ v, conforms e v = true → load o e (some (build v)) = .ok (expected e v)) :
    ∀ l : List Val, conformsList e l = true → (buildList l).mapM (fun j => load o e (some j)) = .ok (expectedList e l)
  | [], _ => by simp only [buildList, expectedList, List.mapM_nil]; rfl
  | x :: r, h => by
    simp only [conformsList, Bool.and_eq_true] at h
    simp only [buildList, expectedList, List.mapM_cons, ih x h.1, loadList_build o e ih r h.2]; rfl

mutual
theorem load_build (o : Opts) : ∀ (s : Schema) (v : Val), conforms s v = true → load o s (some (build v)) = .ok (expected s v)
  | .leaf t, v, h => by
    cases v with
    | sc sc =>
      simp only [conforms, Bool.and_eq_true, beq_iff_eq] at h
      obtain ⟨rfl, hok⟩ := h
      simp only [load, build, expected, loadValue_of_scalar o sc hok]; rfl
    | _ => simp only [conforms, Bool.false_eq_true] at h
  | .vec e, v, h => by
    cases v with
    | arr items =>
      simp only [conforms] at h
      simp only [load, build, expected, loadList_build o e (load_build o e) items h]; rfl
    | _ => simp only [conforms, Bool.false_eq_true] at h
  | .cls fs, v, h => by
    cases v with
    | obj fields =>
      simp only [conforms, Bool.and_eq_true, decide_eq_true_eq] at h
      simp only [load, build, expected, loadFields_build o fs fields (buildFields fields) h.1 (findMember_buildFields fields h.2)]; rfl
    | _ => simp only [conforms, Bool.false_eq_true] at h
  | .map e, v, h => by cases v <;> simp only [conforms, Bool.false_eq_true] at h
  | .opt e, v, h => by
    by_cases hv : v = .none
    · subst hv
      simp only [expected, build]
      rcases load_null o e (by simpa only [conforms] using h) with hn | hn
      · exact load_opt_of_unset hn
      · exact load_opt_of_ok hn LVal.noConfusion
    · rw [conforms_opt hv] at h
      rw [expected_opt hv]
      exact load_opt_of_ok (load_build o e v h) (expected_ne_unset e v h)
theorem loadFields_build (o : Opts) : ∀ (fs : List (Bool × Str × Schema)) (fields : List (Bool × Str × Val)) (ms : List (Str × Json)),
    conformsFields fs fields = true → (∀ f ∈ fields, findMember f.2.1 ms = some (build f.2.2)) →
    loadFields o fs ms = .ok (expectedFields fs fields)
  | [], [], ms, _, _ => by simp only [loadFields, expectedFields]
  | [], _ :: _, ms, h, _ => by simp only [conformsFields, Bool.false_eq_true] at h
  | _ :: _, [], ms, h, _ => by simp only [conformsFields, Bool.false_eq_true] at h
  | (a, k, s) :: r, (a', k', v) :: r', ms, h, hf => by
    simp only [conformsFields, Bool.and_eq_true, beq_iff_eq] at h
    obtain ⟨⟨rfl, hc⟩, hr⟩ := h
    simp only [loadFields, expectedFields, hf (a', k, v) List.mem_cons_self, load_build o s v hc,
      loadFields_build o r r' ms hr fun f hfm => hf f (List.mem_cons_of_mem _ hfm)]
    rfl
end

theorem findMember_perm (k : Str) {ms ms' : List (Str × Json)} (hp : ms.Perm ms') :
    (ms.map Prod.fst).Nodup → findMember k ms' = findMember k ms := by
  induction hp with
  | nil => intro _; rfl
  | cons x _ ih =>
    intro hnd
    obtain ⟨k', j⟩ := x
    simp only [List.map_cons, List.nodup_cons] at hnd
    simp only [findMember, ih hnd.2]
  | swap x y l =>
    intro hnd
    obtain ⟨kx, jx⟩ := x
    obtain ⟨ky, jy⟩ := y
    simp only [List.map_cons, List.nodup_cons, List.mem_cons, not_or] at hnd
    have hne : ky ≠ kx := hnd.1.1
    simp only [findMember]
    by_cases h1 : kx = k
    · subst h1
      simp [hne]
    · simp [h1]
  | trans h1 _ ih1 ih2 =>
    intro hnd
    have hnd2 := ((h1.map Prod.fst).nodup_iff).mp hnd
    rw [ih2 hnd2, ih1 hnd]

theorem loadFields_perm (o : Opts) (fs : List (Bool × Str × Schema)) {ms ms' : List (Str × Json)} (hp : ms.Perm ms')
    (hnd : (ms.map Prod.fst).Nodup) : loadFields o fs ms' = loadFields o fs ms := by
  induction fs with
  | nil => simp [loadFields]
  | cons f r ih =>
    obtain ⟨a, k, s⟩ := f
    simp only [loadFields, findMember_perm k hp hnd, ih]

end BSVerif.Adapter
