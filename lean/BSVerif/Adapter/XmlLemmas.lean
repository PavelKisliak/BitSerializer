/-
  The XML adapter against its specification: the element built for a value matches the value's data model
  (`domMatches`), provided pugixml's number formatting reads back (`NumFmtOk`).
-/
import BSVerif.Adapter.XmlSpec
open BSVerif.Adapter BSVerif.Adapter.XmlModel BSVerif.Adapter.XmlSpec

namespace BSVerif.Adapter

/-- the scalars whose text pugixml formats (`set_value(float / double)`) -/
def isFloatScalar : Scalar → Bool
  | .f32 _ => true
  | .f64 _ => true
  | _ => false

/-- pugixml's number formatting reads back (by value) as the number that was set: the XML half of the codec law -/
def NumFmtOk (fmt : NumFmt) : Prop :=
  ∀ s, isFloatScalar s = true → Spec.scalarFinite s = true → scalarMatches s (scalarText fmt s) = true

mutual
/-- finite numbers; attribute fields hold scalars (or empty optionals) and have distinct names within one object -/
def xmlValOk : Val → Bool
  | .sc s => Spec.scalarFinite s
  | .none => true
  | .arr items => xmlListOk items
  | .obj fields => xmlFieldsOk fields && decide (((fields.filter (·.1)).map (·.2.1)).Nodup)
def xmlListOk : List Val → Bool
  | [] => true
  | v :: r => xmlValOk v && xmlListOk r
def xmlFieldsOk : List (Bool × Str × Val) → Bool
  | [] => true
  | (a, _, v) :: r => (match a, v with | true, .arr _ => false | true, .obj _ => false | _, _ => true) && xmlValOk v && xmlFieldsOk r
end

/-- Only the two floating cases have content. `XmlSpec.scalarMatches` compares the text of a bool or an integer with the
    model's own `XmlModel.strTrue` / `strFalse` / `decimal`, which is what `scalarText` wrote, so those cases (and `str`) are `t == t`. -/
theorem scalarMatches_text (fmt : NumFmt) (hf : NumFmtOk fmt) (s : Scalar) (h : Spec.scalarFinite s = true) :
    scalarMatches s (scalarText fmt s) = true := by
  cases s with
  | f32 b => exact hf _ rfl h
  | f64 b => exact hf _ rfl h
  | null => rfl
  | bool b => exact beq_self_eq_true (α := Str) _
  | int t v => exact beq_self_eq_true (α := Str) _
  | str x => exact beq_self_eq_true x

theorem elemChildren_buildItems (fmt : NumFmt) (items : List Val) : elemChildren (buildItems fmt items) = buildItems fmt items := by
  induction items with
  | nil => simp [buildItems, elemChildren]
  | cons v r ih =>
    simp only [elemChildren] at ih ⊢
    cases v <;> simp [buildItems, buildNode, ih]

theorem elemChildren_buildChildren (fmt : NumFmt) (fields : List (Bool × Str × Val)) :
    elemChildren (buildChildren fmt fields) = buildChildren fmt fields := by
  induction fields with
  | nil => simp [buildChildren, elemChildren]
  | cons f r ih =>
    obtain ⟨a, k, v⟩ := f
    simp only [elemChildren] at ih ⊢
    cases a <;> cases v <;> simp [buildChildren, buildNode, ih]

theorem buildAttrs_keys (fmt : NumFmt) (fields : List (Bool × Str × Val)) :
    (buildAttrs fmt fields).map Prod.fst = (fields.filter (·.1)).map (·.2.1) := by
  induction fields with
  | nil => simp [buildAttrs]
  | cons f r ih =>
    obtain ⟨a, k, v⟩ := f
    cases a <;> cases v <;> simp [buildAttrs, ih]

theorem buildAttrs_length (fmt : NumFmt) (fields : List (Bool × Str × Val)) :
    (buildAttrs fmt fields).length = (fields.filter (·.1)).length := by
  rw [← List.length_map (f := Prod.fst), buildAttrs_keys, List.length_map]

theorem attrsMatch_congr {a a' : List (Str × Str)} : ∀ (fields : List (Bool × Str × Val)),
    (∀ k ∈ (fields.filter (·.1)).map (·.2.1), attrNamed k a = attrNamed k a') → attrsMatch fields a = attrsMatch fields a'
  | [], _ => rfl
  | (false, k, v) :: r, h => by
    simp only [attrsMatch]; exact attrsMatch_congr r h
  | (true, k, v) :: r, h => by
    have hk := h k List.mem_cons_self
    have hr := attrsMatch_congr r fun k' hk' => h k' (List.mem_cons_of_mem _ hk')
    cases v <;> simp only [attrsMatch, hk, hr]

theorem attrsMatch_weaken (fields : List (Bool × Str × Val)) (k' t : Str) (attrs : List (Str × Str))
    (hk : k' ∉ (fields.filter (·.1)).map (·.2.1)) : attrsMatch fields ((k', t) :: attrs) = attrsMatch fields attrs :=
  attrsMatch_congr fields fun k hm => by
    have hne : k' ≠ k := fun e => hk (e ▸ hm)
    simp only [attrNamed, hne, if_false]

theorem attrsMatch_build (fmt : NumFmt) (hf : NumFmtOk fmt) : ∀ (fields : List (Bool × Str × Val)), xmlFieldsOk fields = true →
    ((fields.filter (·.1)).map (·.2.1)).Nodup → attrsMatch fields (buildAttrs fmt fields) = true
  | [], _, _ => rfl
  | (false, k, v) :: r, hok, hnd => by
    simp only [xmlFieldsOk, Bool.and_eq_true] at hok
    simp only [attrsMatch, buildAttrs]
    exact attrsMatch_build fmt hf r hok.2 hnd
  | (true, k, v) :: r, hok, hnd => by
    simp only [xmlFieldsOk, Bool.and_eq_true] at hok
    have hnd' : k ∉ (r.filter (·.1)).map (·.2.1) ∧ ((r.filter (·.1)).map (·.2.1)).Nodup := List.nodup_cons.1 hnd
    have ihr := attrsMatch_build fmt hf r hok.2 hnd'.2
    cases v with
    | sc s =>
      have hm := scalarMatches_text fmt hf s hok.1.2
      simp only [attrsMatch, buildAttrs, attrNamed, if_true, Bool.and_eq_true, attrsMatch_weaken r k _ _ hnd'.1]
      refine ⟨?_, ihr⟩
      cases s with
      | null => rfl
      | str x => exact beq_self_eq_true x
      | _ => exact hm
    | none =>
      simp only [attrsMatch, buildAttrs, attrNamed, if_true, Bool.and_eq_true, attrsMatch_weaken r k _ _ hnd'.1]
      exact ⟨rfl, ihr⟩
    | arr l => simp only [Bool.false_eq_true, false_and] at hok
    | obj l => simp only [Bool.false_eq_true, false_and] at hok

mutual
theorem domMatches_build (fmt : NumFmt) (hf : NumFmtOk fmt) : ∀ (name : Str) (v : Val), xmlValOk v = true →
    domMatches name v (buildNode fmt name v) = true
  | name, .sc s, h => by
    have hm := scalarMatches_text fmt hf s (by simpa [xmlValOk] using h)
    simp only [buildNode, domMatches]
    cases ht : scalarText fmt s <;> simp_all [textContent]
  | name, .none, _ => by simp [buildNode, domMatches]
  | name, .arr items, h => by
    have ih := itemsMatch_build fmt hf items (by simpa [xmlValOk] using h)
    simp only [buildNode, domMatches, elemChildren_buildItems]
    simp [ih]
  | name, .obj fields, h => by
    simp only [xmlValOk, Bool.and_eq_true, decide_eq_true_eq] at h
    have hattrs := attrsMatch_build fmt hf fields h.1 h.2
    have ih := childrenMatch_build fmt hf fields h.1
    simp only [buildNode, domMatches, elemChildren_buildChildren, buildAttrs_length]
    simp [hattrs, ih]
theorem itemsMatch_build (fmt : NumFmt) (hf : NumFmtOk fmt) : ∀ (items : List Val), xmlListOk items = true →
    itemsMatch items (buildItems fmt items) = true
  | [], _ => by simp [itemsMatch, buildItems]
  | v :: r, h => by
    simp only [xmlListOk, Bool.and_eq_true] at h
    have ihv := domMatches_build fmt hf (itemName v) v h.1
    have ihr := itemsMatch_build fmt hf r h.2
    simp [itemsMatch, buildItems, ihv, ihr]
theorem childrenMatch_build (fmt : NumFmt) (hf : NumFmtOk fmt) : ∀ (fields : List (Bool × Str × Val)), xmlFieldsOk fields = true →
    childrenMatch fields (buildChildren fmt fields) = true
  | [], _ => by simp [childrenMatch, buildChildren]
  | (true, k, v) :: r, h => by
    -- an attribute field is no child
    simp only [xmlFieldsOk, Bool.and_eq_true] at h
    have ihr := childrenMatch_build fmt hf r h.2
    simp [childrenMatch, buildChildren, ihr]
  | (false, k, v) :: r, h => by
    simp only [xmlFieldsOk, Bool.and_eq_true] at h
    have ihv := domMatches_build fmt hf k v h.1.2
    have ihr := childrenMatch_build fmt hf r h.2
    simp [childrenMatch, buildChildren, ihv, ihr]
end

end BSVerif.Adapter
