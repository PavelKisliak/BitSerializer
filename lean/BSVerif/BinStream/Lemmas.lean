/-
  What the statements of C10 are made of, and the lemmas under them: `slice` (a stretch of the underlying byte string),
  the invariant of the CBinaryStreamReader model (`RInv0`, `RInv`), `Sim` (a later state of the same reader), and what
  the building blocks (`istream::read`/`peek`, `ReadNextChunk`, the common guard, consuming buffered bytes) do to a
  state that satisfies the invariant.
  `Cursor` (BinStream/Model.lean) is the SPECIFICATION here, the plain `(data, pos)` the reader is shown to behave like;
  in Scope/Cursor.lean "cursor" is the implementation state of the object scope.
-/
import BSVerif.BinStream.Model

namespace BSVerif.BinStream

/-- `n` bytes of `d` starting at offset `a` (fewer at the end) -/
def slice (d : List Nat) (a n : Nat) : List Nat := (d.drop a).take n

theorem slice_length (d : List Nat) (a n : Nat) : (slice d a n).length = min n (d.length - a) := by
  simp [slice, List.length_take, List.length_drop]

theorem slice_zero (d : List Nat) (a : Nat) : slice d a 0 = [] := by simp [slice]

theorem slice_append (d : List Nat) (a n m : Nat) : slice d a n ++ slice d (a + n) m = slice d a (n + m) := by
  simp only [slice]
  rw [List.take_add, List.drop_drop]

theorem slice_drop (d : List Nat) (a n k : Nat) : (slice d a n).drop k = slice d (a + k) (n - k) := by
  simp only [slice]
  rw [List.drop_take, List.drop_drop]

theorem slice_take (d : List Nat) (a n k : Nat) : (slice d a n).take k = slice d a (min k n) := by
  simp only [slice]
  rw [List.take_take]

theorem slice_full (d : List Nat) (a n : Nat) (h : d.length - a ≤ n) : slice d a n = d.drop a := by
  simp only [slice]
  exact List.take_of_length_le (by simp [List.length_drop]; omega)

theorem slice_eq_of_le (d : List Nat) (a n m : Nat) (hn : d.length - a ≤ n) (hm : d.length - a ≤ m) :
    slice d a n = slice d a m := by
  rw [slice_full d a n hn, slice_full d a m hm]

theorem slice_self_length (d : List Nat) (a n : Nat) : slice d a (slice d a n).length = slice d a n := by
  rw [slice_length]
  by_cases h : n ≤ d.length - a
  · rw [Nat.min_eq_left h]
  · rw [Nat.min_eq_right (by omega)]
    exact slice_eq_of_le _ _ _ _ (Nat.le_refl _) (by omega)

/-- what holds of every state, also in the middle of an operation: the cache `buf` is the stretch of the data that ends
    where the stream stands (`streamPos`), `startOff` points into it, and the stream's flags are those of a stream that
    was only read (eof only at the end of the data, fail only with eof) -/
structure RInv0 (r : Reader) : Prop where
  nPos : 0 < r.N
  startLe : r.startOff ≤ r.buf.length
  bufLe : r.buf.length ≤ r.N
  posGe : r.buf.length ≤ r.streamPos
  posLe : r.streamPos ≤ r.stream.data.length
  bufEq : r.buf = slice r.stream.data (r.streamPos - r.buf.length) r.buf.length
  spos : r.stream.pos = r.streamPos
  eofEnd : r.stream.eof = true → r.streamPos = r.stream.data.length
  failEof : r.stream.fail = true → r.stream.eof = true

/-- full invariant between operations: additionally, an emptied window at the very end of the data
    has already been noticed (`IsEnd()` is exact) -/
structure RInv (r : Reader) : Prop where
  base : RInv0 r
  endEof : r.startOff = r.buf.length → r.streamPos = r.stream.data.length → r.stream.eof = true

theorem win_length (r : Reader) : r.win.length = r.buf.length - r.startOff := by
  simp [Reader.win, List.length_drop]

theorem win_eq (r : Reader) (h : RInv0 r) :
    r.win = slice r.stream.data r.getPosition r.win.length := by
  have hw := win_length r
  unfold Reader.getPosition
  rw [hw]
  unfold Reader.win
  conv => lhs; rw [h.bufEq]
  rw [slice_drop]
  have := h.startLe; have := h.posGe
  congr 1; omega

theorem getPosition_le (r : Reader) (h : RInv0 r) : r.getPosition ≤ r.stream.data.length := by
  unfold Reader.getPosition; have := h.posLe; omega

theorem win_le (r : Reader) (h : RInv0 r) : r.getPosition + r.win.length ≤ r.stream.data.length := by
  have := congrArg List.length (win_eq r h)
  have := getPosition_le r h
  rw [slice_length] at *
  omega

theorem take_win (r : Reader) (h : RInv0 r) (k : Nat) (hk : k ≤ r.win.length) :
    r.win.take k = slice r.stream.data r.getPosition k := by
  conv => lhs; rw [win_eq r h]
  rw [slice_take, Nat.min_eq_left hk]

theorem win_head (r : Reader) (h : RInv0 r) (hw : r.win ≠ []) : r.win.head? = r.stream.data[r.getPosition]? := by
  have hl : r.win.length ≠ 0 := fun h0 => hw (List.eq_nil_of_length_eq_zero h0)
  rw [win_eq r h, slice, List.head?_take, if_neg hl, List.head?_drop]

section
variable (s : Stream) (hp : s.pos ≤ s.data.length) (he : s.eof = true → s.pos = s.data.length)
  (hf : s.fail = true → s.eof = true)
include hp he hf

/-- `istream::read`, healthy stream or not -/
theorem read_spec (n : Nat) :
    (s.read n).1 = slice s.data s.pos n ∧ (s.read n).2.data = s.data ∧
    (s.read n).2.pos = s.pos + (s.read n).1.length ∧
    (s.read n).2.eof = (s.eof || decide (s.data.length - s.pos < n)) ∧
    ((s.read n).2.fail = true → (s.read n).2.eof = true) := by
  unfold Stream.read Stream.good
  cases heof : s.eof with
  | true => simp [slice, he heof]
  | false =>
    have hfl : s.fail = false := by
      cases h : s.fail with
      | false => rfl
      | true => rw [hf h] at heof; cases heof
    by_cases ha : s.data.length - s.pos < n
    · simp [hfl, ha, slice_full _ _ _ (Nat.le_of_lt ha), List.length_drop]; omega
    · simp [hfl, ha, slice, List.length_take, List.length_drop]; omega

theorem peek_spec :
    s.peek.data = s.data ∧ s.peek.pos = s.pos ∧ (s.peek.eof = true → s.pos = s.data.length) ∧
    (s.pos = s.data.length → s.peek.eof = true) ∧ (s.peek.fail = true → s.peek.eof = true) := by
  unfold Stream.peek Stream.good
  cases heof : s.eof with
  | true => simp [he heof]
  | false =>
    have hfl : s.fail = false := by
      cases h : s.fail with
      | false => rfl
      | true => rw [hf h] at heof; cases heof
    by_cases ha : s.pos ≥ s.data.length
    · simp [hfl, ha]; omega
    · simp [hfl, ha, heof]; omega

end

/-- `r'` is a state of the same reader over the same byte string, `k` bytes further on — and satisfies the full invariant
    (`inv`): every `_refines` proof of C10 ends in a `Sim` and takes the invariant of the new state from it -/
structure Sim (r r' : Reader) (k : Nat) : Prop where
  inv : RInv r'
  pos : r'.getPosition = r.getPosition + k
  data : r'.stream.data = r.stream.data
  N : r'.N = r.N

theorem Sim.refl {r : Reader} (h : RInv r) : Sim r r 0 := ⟨h, rfl, rfl, rfl⟩

theorem Sim.trans {r r1 r2 : Reader} {j k : Nat} (h1 : Sim r r1 j) (h2 : Sim r1 r2 k) : Sim r r2 (j + k) :=
  ⟨h2.inv, by rw [h2.pos, h1.pos, Nat.add_assoc], h2.data.trans h1.data, h2.N.trans h1.N⟩

/-- the three squeeze/reset branches of `ReadNextChunk` all leave `buf = unread window`, `startOff = 0` -/
theorem squeeze_eq (r : Reader) (h : RInv0 r) :
    (if r.startOff = r.N then { r with buf := [], startOff := 0 }
     else if r.startOff ≠ 0 then { r with buf := r.win, startOff := 0 } else r)
      = { r with buf := r.win, startOff := 0 } := by
  by_cases h1 : r.startOff = r.N
  · have : r.win = [] := by
      have hl := win_length r
      have := h.startLe; have := h.bufLe
      exact List.eq_nil_of_length_eq_zero (by omega)
    simp [h1, this]
  · by_cases h2 : r.startOff = 0
    · have : r.win = r.buf := by simp [Reader.win, h2]
      simp only [if_false, h2, ne_eq, not_true_eq_false, this]
      cases r; simp_all
    · simp [h1, h2]

/-- `ReadNextChunk` keeps the position and fills the window up to `N` bytes (fewer at the end of the data) -/
theorem readNextChunk_spec (r : Reader) (h : RInv0 r) :
    Sim r r.readNextChunk.2 0 ∧ r.readNextChunk.2.win = slice r.stream.data r.getPosition r.N ∧
    r.readNextChunk.1 = decide (r.win.length < r.readNextChunk.2.win.length) := by
  have hweq := win_eq r h
  have hpl := h.posLe; have hn := h.nPos
  -- the arithmetic below needs only `hpl`, `hwN`, `hpos` and, after the refill, `hg`
  have hwN : r.win.length ≤ r.N := by have := win_length r; have := h.startLe; have := h.bufLe; omega
  have hpos : r.getPosition + r.win.length = r.streamPos := by
    have := win_length r; have := h.startLe; have := h.posGe; unfold Reader.getPosition; omega
  by_cases hend : r.isEnd = true
  · have : r.readNextChunk = (false, r) := by unfold Reader.readNextChunk; simp [hend]
    rw [this]
    simp only [Reader.isEnd, Bool.and_eq_true, List.isEmpty_iff] at hend
    have he := h.eofEnd hend.2
    refine ⟨⟨⟨h, fun _ _ => hend.2⟩, rfl, rfl, rfl⟩, ?_, by simp⟩
    rw [hweq, hend.1]
    exact slice_eq_of_le _ _ _ _ (by rw [hend.1] at hpos; simp at hpos; omega) (by rw [hend.1] at hpos; simp at hpos; omega)
  · have hrnc : r.readNextChunk = (!(r.stream.read (r.N - r.win.length)).1.isEmpty,
        { N := r.N, buf := r.win ++ (r.stream.read (r.N - r.win.length)).1, startOff := 0,
          streamPos := r.streamPos + (r.stream.read (r.N - r.win.length)).1.length,
          stream := (r.stream.read (r.N - r.win.length)).2 }) := by
      unfold Reader.readNextChunk
      simp only [hend, Bool.false_eq_true, if_false]
      rw [squeeze_eq r h]
    rw [hrnc]
    obtain ⟨g1, g2, g3, g4, g5⟩ := read_spec r.stream (by rw [h.spos]; exact hpl) (by rw [h.spos]; exact h.eofEnd) h.failEof
      (r.N - r.win.length)
    generalize r.stream.read (r.N - r.win.length) = rd at *
    obtain ⟨got, st⟩ := rd
    simp only [h.spos] at g1 g2 g3 g4 g5 ⊢
    -- the arithmetic of the refill, free of `min` and `-`: `got` fills the window or reaches the end of the data
    have hg : r.win.length + got.length ≤ r.N ∧ r.streamPos + got.length ≤ r.stream.data.length ∧
        (r.win.length + got.length = r.N ∨ r.streamPos + got.length = r.stream.data.length) := by
      rw [g1, slice_length]; omega
    obtain ⟨hg1, hg2, hg3⟩ := hg
    have heof : st.eof = true ↔
        r.stream.eof = true ∨ r.stream.data.length + r.win.length < r.N + r.streamPos := by
      have : r.stream.data.length - r.streamPos < r.N - r.win.length ↔
          r.stream.data.length + r.win.length < r.N + r.streamPos := by omega
      rw [g4]; simp [this]
    have hwin' : r.win ++ got = slice r.stream.data r.getPosition r.N := by
      rw [g1, ← hpos]
      conv => lhs; lhs; rw [hweq]
      rw [slice_append, Nat.add_sub_cancel' hwN]
    have hw' : (Reader.mk r.N (r.win ++ got) 0 (r.streamPos + got.length) st).win = r.win ++ got := rfl
    have hgp : (Reader.mk r.N (r.win ++ got) 0 (r.streamPos + got.length) st).getPosition = r.getPosition := by
      show r.streamPos + got.length - (r.win ++ got).length = r.getPosition
      rw [List.length_append]; omega
    refine ⟨{ inv := ⟨{ nPos := hn, startLe := Nat.zero_le _, bufLe := ?_, posGe := ?_, posLe := ?_, bufEq := ?_,
                        spos := g3, eofEnd := ?_, failEof := g5 }, ?_⟩,
              pos := hgp, data := g2, N := rfl }, hw'.trans hwin', ?_⟩
    · show (r.win ++ got).length ≤ r.N
      rw [List.length_append]; exact hg1
    · show (r.win ++ got).length ≤ r.streamPos + got.length
      rw [List.length_append]; omega
    · show r.streamPos + got.length ≤ st.data.length
      rw [g2]; exact hg2
    · show r.win ++ got = slice st.data (r.streamPos + got.length - (r.win ++ got).length) (r.win ++ got).length
      rw [g2, show r.streamPos + got.length - (r.win ++ got).length = r.getPosition from hgp, hwin', slice_self_length]
    · show st.eof = true → r.streamPos + got.length = st.data.length
      intro he
      have := h.eofEnd
      rw [g2]
      rcases heof.mp he with he | he
      · have := this he; omega
      · omega
    · show 0 = (r.win ++ got).length → r.streamPos + got.length = st.data.length → st.eof = true
      intro hs hp
      rw [List.length_append] at hs
      rw [g2] at hp
      exact heof.mpr (.inr (by omega))
    · rw [hw', List.length_append]
      cases got <;> simp

/-- the common guard `mStartDataPtr != mEndDataPtr || ReadNextChunk()`: succeeds exactly when a byte is left, and then
    the window is not empty -/
theorem ensure_cases (r : Reader) (h : RInv r) :
    (r.getPosition < r.stream.data.length ∧ ∃ r1, r.ensure = (true, r1) ∧ Sim r r1 0 ∧ r1.win ≠ []) ∨
    (r.stream.data.length ≤ r.getPosition ∧ ∃ r1, r.ensure = (false, r1) ∧ Sim r r1 0) := by
  have hle := win_le r h.base
  unfold Reader.ensure
  by_cases hw : r.win = []
  · obtain ⟨a1, a2, a3⟩ := readNextChunk_spec r h.base
    have hl := congrArg List.length a2
    rw [slice_length] at hl
    have := h.base.nPos
    rw [hw] at a3
    simp only [hw, List.isEmpty_nil, Bool.not_true, Bool.false_eq_true, if_false, List.length_nil] at a3 ⊢
    by_cases hp : r.getPosition < r.stream.data.length
    · refine .inl ⟨hp, _, Prod.ext (a3.trans (decide_eq_true (by omega))) rfl, a1, fun h0 => ?_⟩
      rw [h0] at hl; simp at hl; omega
    · exact .inr ⟨by omega, _, Prod.ext (a3.trans (decide_eq_false (by omega))) rfl, a1⟩
  · have : 0 < r.win.length := List.length_pos_iff.mpr hw
    exact .inl ⟨by omega, r, by simp [hw], .refl h, hw⟩

/-- moving `mStartDataPtr` inside the cached chunk -/
theorem RInv0.setStart {r : Reader} (h : RInv0 r) {s : Nat} (hs : s ≤ r.buf.length) : RInv0 { r with startOff := s } :=
  ⟨h.nPos, hs, h.bufLe, h.posGe, h.posLe, h.bufEq, h.spos, h.eofEnd, h.failEof⟩

theorem advance_spec (r : Reader) (h : RInv0 r) (k : Nat) (hk : k ≤ r.win.length) :
    RInv0 { r with startOff := r.startOff + k } ∧
    ({ r with startOff := r.startOff + k } : Reader).getPosition = r.getPosition + k := by
  have hwl := win_length r
  have := h.startLe; have := h.posGe
  refine ⟨h.setStart (by omega), ?_⟩
  unfold Reader.getPosition
  simp only [win_length]; omega

/-- a window that is not empty needs no look at the stream -/
theorem RInv.of_win {r : Reader} (h : RInv0 r) (hw : r.win.isEmpty = false) : RInv r := by
  refine ⟨h, fun hs => ?_⟩
  have : r.win.length = 0 := by rw [win_length]; omega
  rw [List.eq_nil_of_length_eq_zero this] at hw
  cases hw

/-- the refill of `GotoNextByte`/`ReadByte` when the window has been emptied -/
theorem refill_sim (r : Reader) (h : RInv0 r) : Sim r (if r.win.isEmpty then r.readNextChunk.2 else r) 0 := by
  by_cases hw : r.win.isEmpty = true
  · rw [if_pos hw]; exact (readNextChunk_spec r h).1
  · rw [if_neg hw]; exact .refl (.of_win h (by simpa using hw))

/-- the `peek()` of `ReadSolidBlock`/`ReadByChunks` when the window has been emptied -/
theorem peek_sim (r : Reader) (h : RInv0 r) :
    Sim r (if r.win.isEmpty then { r with stream := r.stream.peek } else r) 0 := by
  by_cases hw : r.win.isEmpty = true
  · rw [if_pos hw]
    obtain ⟨p1, p2, p3, p4, p5⟩ :=
      peek_spec r.stream (by rw [h.spos]; exact h.posLe) (by rw [h.spos]; exact h.eofEnd) h.failEof
    refine { inv := ⟨{ nPos := h.nPos, startLe := h.startLe, bufLe := h.bufLe, posGe := h.posGe,
                       posLe := by rw [p1]; exact h.posLe, bufEq := by rw [p1]; exact h.bufEq,
                       spos := p2.trans h.spos, eofEnd := fun he => ?_, failEof := p5 }, fun _ hs => p4 ?_⟩,
             pos := rfl, data := p1, N := rfl }
    · rw [p1, ← h.spos]; exact p3 he
    · rw [h.spos, hs, p1]
  · rw [if_neg hw]; exact .refl (.of_win h (by simpa using hw))

/-- `k` buffered bytes consumed before a state that stays where it is: `k` bytes further on -/
theorem Sim.advance {r r' : Reader} (h : RInv0 r) {k : Nat} (hk : k ≤ r.win.length)
    (hs : Sim { r with startOff := r.startOff + k } r' 0) : Sim r r' k :=
  ⟨hs.inv, hs.pos.trans (advance_spec r h k hk).2, hs.data, hs.N⟩

end BSVerif.BinStream
