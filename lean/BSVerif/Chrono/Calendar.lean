/-
  SPEC: the proleptic Gregorian calendar (ISO 8601:2004 §3.2.1 "The Gregorian calendar", C++20
  [time.cal] for the epoch: day 0 = 1970-01-01), written from the calendar rules, not from the C++.

    * a year is a leap year iff it is divisible by 4 and not by 100, or divisible by 400
      (astronomical year numbering: year 0 exists and is a leap year, year −1 precedes it);
    * month lengths 31 28/29 31 30 31 30 31 31 30 31 30 31;
    * `dayNumber y m d` = number of days from 1970-01-01 to y-m-d, by the closed form
      365·y + ⌈y/4⌉ − ⌈y/100⌉ + ⌈y/400⌉ (for y ≥ 0: 365 per year plus the leap years among 0 … y−1, year 0 being one) for the
      days from 0000-01-01 to 1 January of year `y`, plus the month table, minus the same quantity for 1970-01-01.

  `Int` division `/` is floor division for a positive divisor (Lean's `Int.ediv`), so ⌈y/4⌉ is written `(y + 3) / 4`.
-/
namespace BSVerif.Chrono.Calendar

def isLeap (y : Int) : Bool := (y % 4 == 0 && y % 100 != 0) || y % 400 == 0

def monthLen (y : Int) (m : Nat) : Nat :=
  match m with
  | 1 => 31 | 2 => if isLeap y then 29 else 28 | 3 => 31 | 4 => 30 | 5 => 31 | 6 => 30
  | 7 => 31 | 8 => 31 | 9 => 30 | 10 => 31 | 11 => 30 | 12 => 31 | _ => 0

/-- days of a common year before the first of month `m` -/
def cumDays (m : Nat) : Nat :=
  match m with
  | 1 => 0 | 2 => 31 | 3 => 59 | 4 => 90 | 5 => 120 | 6 => 151
  | 7 => 181 | 8 => 212 | 9 => 243 | 10 => 273 | 11 => 304 | 12 => 334 | _ => 0

/-- number of days from 0000-01-01 to 1 January of year `y` (negative before year 0) -/
def daysBeforeYear (y : Int) : Int :=
  365 * y + ((y + 3) / 4 - (y + 99) / 100 + (y + 399) / 400)

/-- 0-based day of the year of y-m-d -/
def dayOfYear (y : Int) (m d : Nat) : Nat :=
  cumDays m + (if m > 2 ∧ isLeap y then 1 else 0) + (d - 1)

/-- 0000-01-01 → 1970-01-01 -/
def epochOffset : Int := 719528

/-- days from 1970-01-01 to y-m-d -/
def dayNumber (y : Int) (m d : Nat) : Int :=
  daysBeforeYear y + dayOfYear y m d - epochOffset

structure ValidDate (y : Int) (m d : Nat) : Prop where
  m_lo : 1 ≤ m
  m_hi : m ≤ 12
  d_lo : 1 ≤ d
  d_hi : d ≤ monthLen y m

def validDate (y : Int) (m d : Nat) : Bool :=
  1 ≤ m && m ≤ 12 && 1 ≤ d && d ≤ monthLen y m

theorem validDate_iff {y : Int} {m d : Nat} : validDate y m d = true ↔ ValidDate y m d := by
  simp only [validDate, Bool.and_eq_true, decide_eq_true_eq]
  constructor
  · rintro ⟨⟨⟨a, b⟩, c⟩, e⟩; exact ⟨a, b, c, e⟩
  · rintro ⟨a, b, c, e⟩; exact ⟨⟨⟨a, b⟩, c⟩, e⟩

-- sanity: literal dates from the documentation / standards
example : dayNumber 1970 1 1 = 0 := by decide
example : dayNumber 2000 3 1 = 11017 := by decide
example : dayNumber 0 1 1 = -719528 := by decide
example : dayNumber (-1) 12 31 = -719529 := by decide
example : dayNumber 9999 12 31 = 2932896 := by decide
example : dayNumber 2262 4 11 = 106751 := by decide
example : isLeap 2000 = true ∧ isLeap 1900 = false ∧ isLeap 2024 = true ∧ isLeap 2023 = false ∧ isLeap 0 = true ∧ isLeap (-4) = true := by decide

end BSVerif.Chrono.Calendar
