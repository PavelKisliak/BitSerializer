/-
  `duration_cast`, `floor` and `round` of the Model on int64 counts between two periods of which one is a whole
  multiple `K` of the other. The multiple stays a variable; the periods of the table enter through `Coarser.of_mul`.
-/
import BSVerif.Chrono.IntRep

namespace BSVerif.Chrono

/-- period units per day -/
def Period.perDay (p : Period) : Nat := 86400 * p.den / p.num

/-- `pt` is `K` periods `ps` long: what `ratio_divide` and the common period make of the pair -/
structure Coarser (pt ps : Period) (K : Nat) : Prop where
  pos : 0 < K
  down : ratioDiv ps pt = (1, K)
  up : ratioDiv pt ps = (K, 1)
  fine : ratioDiv ps ps = (1, 1)
  common : finer pt ps = ps ∧ finer ps pt = ps

variable {p pt ps : Period} {K : Nat} {x : Int}

theorem Coarser.refl (h : 0 < p.num * p.den) : Coarser p p 1 :=
  ⟨Nat.one_pos, ratioDiv_self h, ratioDiv_self h, ratioDiv_self h, by simp [finer]⟩

theorem Coarser.of_mul (hK : 2 ≤ K) (ha : 0 < ps.num * pt.den) (h : ps.den * pt.num = K * (ps.num * pt.den)) :
    Coarser pt ps K := by
  have h' : pt.num * ps.den = K * (ps.num * pt.den) := by rw [Nat.mul_comm]; exact h
  have hlt : ps.num * pt.den < K * (ps.num * pt.den) := by
    have := Nat.mul_le_mul_right (ps.num * pt.den) hK; omega
  have hfine : 0 < ps.num * ps.den := by
    refine Nat.mul_pos (Nat.pos_of_mul_pos_right ha) (Nat.pos_of_mul_pos_right (h ▸ Nat.lt_trans ha hlt : 0 < ps.den * pt.num))
  refine ⟨by omega, ?_, ?_, ratioDiv_self hfine, ?_, ?_⟩
  · simp only [ratioDiv, h, Nat.gcd_mul_left_right, Nat.div_self ha, Nat.mul_div_cancel _ ha]
  · simp only [ratioDiv, h', Nat.mul_comm pt.den ps.num, Nat.gcd_mul_left_left, Nat.div_self ha, Nat.mul_div_cancel _ ha]
  · simp only [finer, h', if_neg (Nat.not_le.2 hlt)]
  · simp only [finer, h', if_pos (Nat.le_of_lt hlt)]

theorem durationCast_down (h : Coarser pt ps K) (hx : i64.fits x = true) : durationCast i64 pt i64 ps x = .ok (tdiv x K) := by
  simp only [durationCast, h.down, commonRep3_i64_i64, if_true, wrap_of_fits (by decide) hx]
  by_cases h1 : K = 1
  · subst h1; rw [if_pos rfl, tdiv_one]
  · rw [if_neg h1, wrap_of_fits (by decide) (fits_tdiv (by decide) hx h.pos).1]

theorem durationCast_up (h : Coarser pt ps K) (hx : i64.fits x = true) (hm : i64.fits (x * K) = true) :
    durationCast i64 ps i64 pt x = .ok (x * K) := by
  simp only [durationCast, h.up, commonRep3_i64_i64, if_true, wrap_of_fits (by decide) hx]
  by_cases h1 : K = 1
  · subst h1; rw [if_pos rfl]; simp
  · rw [if_neg h1, arith_of_fits (by decide) hm, Out.bind_ok, wrap_of_fits (by decide) hm]

theorem durationCast_self (h : ratioDiv p p = (1, 1)) (hx : i64.fits x = true) : durationCast i64 p i64 p x = .ok x := by
  simp only [durationCast, h, if_true, wrap_of_fits (by decide) hx]

theorem floorDur_down (h : Coarser pt ps K) (hx : i64.fits x = true) : floorDur i64 pt i64 ps x = .ok (x / (K : Int)) := by
  obtain ⟨f1, f2⟩ := fits_tdiv (r := i64) (by decide) hx h.pos
  simp only [floorDur, durationCast_down h hx, Out.bind_ok, commonRep2_i64_i64, h.common.1, durationCast_up h f1 f2, durationCast_self h.fine hx]
  rw [ediv_eq_tdiv_floor x h.pos]
  split
  · have := fits_ediv (r := i64) (by decide) hx h.pos
    rw [ediv_eq_tdiv_floor x h.pos, if_pos ‹_›] at this
    exact arith_of_fits (by decide) this
  · rfl

theorem floorDur_up (h : Coarser pt ps K) (hx : i64.fits x = true) (hm : i64.fits (x * K) = true) :
    floorDur i64 ps i64 pt x = .ok (x * K) := by
  simp only [floorDur, durationCast_up h hx hm, Out.bind_ok, commonRep2_i64_i64, h.common.2, durationCast_self h.fine hm, Int.lt_irrefl,
    gt_iff_lt, if_false]

/-- `round` of a whole number `F` of periods given in nanoseconds is `F`: the case a printed fraction gives. The distance
    to `F` is 0 and to `F + 1` it is `K`, so no tie arises. -/
theorem roundTo_of_multiple (h : Coarser p pNano K) {F : Int} (h0 : 0 ≤ F) (h1 : (F + 1) * K ≤ 9223372036854775807) :
    roundTo p (F * K) = .ok F := by
  have hK : (0 : Int) < K := by have := h.pos; omega
  have e : (F + 1) * K = F * K + K := by rw [Int.add_mul, Int.one_mul]
  have hFK := Int.mul_nonneg h0 (Int.le_of_lt hK)
  have hF : F ≤ F * K := by
    have := Int.mul_le_mul_of_nonneg_left (show (1 : Int) ≤ K by omega) h0; rwa [Int.mul_one] at this
  have f0 : i64.fits (F * K) = true := i64_fits_of (by omega) (by omega)
  have f1 : i64.fits F = true := i64_fits_of (by omega) (by omega)
  have f2 : i64.fits (F + 1) = true := i64_fits_of (by omega) (by omega)
  have f3 : i64.fits ((F + 1) * K) = true := i64_fits_of (by omega) h1
  unfold roundTo
  -- t0 = F·K / K = F, t1 = F + 1
  rw [floorDur_down h f0, Out.bind_ok, Int.mul_ediv_cancel _ (Int.ne_of_gt hK), arith_of_fits (by decide) f2, Out.bind_ok]
  -- a0 = F·K, d0 = ns − a0 = 0
  rw [durationCast_up h f1 f0, Out.bind_ok, Int.sub_self, arith_of_fits (by decide) (show i64.fits 0 = true by decide), Out.bind_ok]
  -- a1 = (F + 1)·K, d1 = a1 − ns = K
  rw [durationCast_up h f2 f3, Out.bind_ok,
    arith_of_fits (by decide) (show i64.fits ((F + 1) * K - F * K) = true from i64_fits_of (by omega) (by omega)), Out.bind_ok]
  -- d0 < d1: the result is t0
  rw [if_neg (by omega), if_pos (by omega)]

theorem perDay_mul (hp : p.inTable) : p.perDay * p.num = 86400 * p.den := by
  rcases hp with rfl | rfl | rfl | rfl | rfl | rfl | rfl <;> decide

theorem coarser_day (hp : p.inTable) : Coarser pDay p p.perDay := by
  rcases hp with rfl | rfl | rfl | rfl | rfl | rfl | rfl
  · exact .of_mul (by decide) (by decide) (by decide)
  · exact .of_mul (by decide) (by decide) (by decide)
  · exact .of_mul (by decide) (by decide) (by decide)
  · exact .of_mul (by decide) (by decide) (by decide)
  · exact .of_mul (by decide) (by decide) (by decide)
  · exact .of_mul (by decide) (by decide) (by decide)
  · exact .refl (by decide)

/-- a period of the table is a whole fraction or a whole multiple of the second -/
theorem coarser_sec (hp : p.inTable) :
    (p.num = 1 ∧ p.perDay = 86400 * p.den ∧ Coarser pSec p p.den) ∨ (p.den = 1 ∧ p.perDay * p.num = 86400 ∧ Coarser p pSec p.num) := by
  rcases hp with rfl | rfl | rfl | rfl | rfl | rfl | rfl
  · exact .inl ⟨rfl, rfl, .of_mul (by decide) (by decide) (by decide)⟩
  · exact .inl ⟨rfl, rfl, .of_mul (by decide) (by decide) (by decide)⟩
  · exact .inl ⟨rfl, rfl, .of_mul (by decide) (by decide) (by decide)⟩
  · exact .inr ⟨rfl, rfl, .refl (by decide)⟩
  · exact .inr ⟨rfl, rfl, .of_mul (by decide) (by decide) (by decide)⟩
  · exact .inr ⟨rfl, rfl, .of_mul (by decide) (by decide) (by decide)⟩
  · exact .inr ⟨rfl, rfl, .of_mul (by decide) (by decide) (by decide)⟩

theorem coarser_nano (hp : p.inTable) (hd : p.den > 1) :
    Coarser p pNano (1000000000 / p.den) ∧ p.den * (1000000000 / p.den) = 1000000000 := by
  rcases hp with rfl | rfl | rfl | rfl | rfl | rfl | rfl
  · exact ⟨.refl (by decide), rfl⟩
  · exact ⟨.of_mul (by decide) (by decide) (by decide), rfl⟩
  · exact ⟨.of_mul (by decide) (by decide) (by decide), rfl⟩
  all_goals exact absurd hd (by decide)

end BSVerif.Chrono
