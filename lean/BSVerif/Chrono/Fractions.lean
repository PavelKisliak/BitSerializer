/-
  The fraction arithmetic of `ParseSecondFractions`: the double division is exact, so the parsed fraction is
  exactly `digits × 10^(9 − number of digits)` nanoseconds.
-/
import BSVerif.Chrono.Model
namespace BSVerif.Chrono

/-- With `q = ⌊X/v⌋` and `r = v·N/X` an exact quotient, dividing by the rounded `q` still gives `r`, provided `r ≤ q`:
    `N = r·X/v` lies in `[r·q, r·(q+1))`, and `r·(q+1) ≤ (r+1)·q`. -/
theorem double_div_core {v q r N X : Nat} (hv0 : 0 < v) (hrX : r * X = v * N) (hq1 : q * v ≤ X) (hq2 : X < v * (q + 1))
    (hrq : r ≤ q) (hqpos : 0 < q) : N / q = r := by
  apply Nat.le_antisymm
  · have : N / q < r + 1 := by
      rw [Nat.div_lt_iff_lt_mul hqpos]
      by_cases hr0 : r = 0
      · subst hr0
        have : v * N = 0 := by rw [← hrX]; simp
        rcases Nat.mul_eq_zero.mp this with h | h <;> omega
      · have h1 : N * v < (r * (q + 1)) * v := by
          calc N * v = r * X := by rw [hrX, Nat.mul_comm]
            _ < r * (v * (q + 1)) := Nat.mul_lt_mul_of_le_of_lt (Nat.le_refl _) hq2 (by omega)
            _ = (r * (q + 1)) * v := by rw [Nat.mul_comm v, Nat.mul_assoc]
        have h2 : N < r * (q + 1) := Nat.lt_of_mul_lt_mul_right h1
        have h3 : r * (q + 1) ≤ (r + 1) * q := by
          rw [Nat.mul_add, Nat.add_mul, Nat.mul_one, Nat.one_mul]; omega
        omega
    omega
  · rw [Nat.le_div_iff_mul_le hqpos]
    have h1 : (r * q) * v ≤ N * v := by
      calc (r * q) * v = r * (q * v) := Nat.mul_assoc _ _ _
        _ ≤ r * X := Nat.mul_le_mul_left _ hq1
        _ = N * v := by rw [hrX, Nat.mul_comm]
    exact Nat.le_of_mul_le_mul_right h1 hv0

theorem pow_split {n : Nat} (hn : n ≤ 9) : 10 ^ (9 - n) * 10 ^ n = 1000000000 := by
  rw [← Nat.pow_add, show 9 - n + n = 9 by omega]

theorem scaled_lt {n v : Nat} (hn : n ≤ 9) (hv : v < 10 ^ n) : v * 10 ^ (9 - n) < 1000000000 := by
  rw [← pow_split hn, Nat.mul_comm (10 ^ (9 - n))]
  exact Nat.mul_lt_mul_of_lt_of_le' hv (Nat.le_refl _) (Nat.pow_pos (by omega))

/-- the double division of `ParseSecondFractions` is exact: `10^18 / (10^(n+9) / v) = v·10^(9−n)` -/
theorem fraction_scaling_exact {n v : Nat} (hn : n ≤ 9) (hv0 : 0 < v) (hv : v < 10 ^ n) :
    1000000000 * 1000000000 / (10 ^ n * 1000000000 / v) = v * 10 ^ (9 - n) := by
  have hpow := pow_split hn
  have hq9 : 1000000000 ≤ 10 ^ n * 1000000000 / v := by
    rw [Nat.le_div_iff_mul_le hv0, Nat.mul_comm]
    exact Nat.mul_le_mul_right _ (Nat.le_of_lt hv)
  have hr9 := scaled_lt hn hv
  refine double_div_core (X := 10 ^ n * 1000000000) hv0 ?_ (Nat.div_mul_le_self _ v) (Nat.lt_mul_div_succ _ hv0) (by omega) (by omega)
  calc v * 10 ^ (9 - n) * (10 ^ n * 1000000000) = v * ((10 ^ (9 - n) * 10 ^ n) * 1000000000) := by
        simp only [Nat.mul_assoc]
    _ = v * (1000000000 * 1000000000) := by rw [hpow]

/-- a run of `n − k` more digits read after `acc` gives a value below `(acc + 1)·10^(n−k)` -/
theorem spanDigits_bound (s : List Nat) (acc k : Nat) :
    k ≤ (spanDigits s acc k).2.1 ∧ (spanDigits s acc k).1 < (acc + 1) * 10 ^ ((spanDigits s acc k).2.1 - k) := by
  induction s generalizing acc k with
  | nil => simp [spanDigits]
  | cons c t ih =>
    unfold spanDigits
    split
    · rename_i hd
      obtain ⟨h1, h2⟩ := ih (acc * 10 + (c - 48)) (k + 1)
      refine ⟨by omega, ?_⟩
      have hc : c - 48 ≤ 9 := by simp [isDigit] at hd; omega
      generalize (spanDigits t (acc * 10 + (c - 48)) (k + 1)).2.1 = n at *
      generalize (spanDigits t (acc * 10 + (c - 48)) (k + 1)).1 = v at *
      have e : n - k = (n - (k + 1)) + 1 := by omega
      rw [e, Nat.pow_succ]
      calc v < (acc * 10 + (c - 48) + 1) * 10 ^ (n - (k + 1)) := h2
        _ ≤ ((acc + 1) * 10) * 10 ^ (n - (k + 1)) := Nat.mul_le_mul_right _ (by omega)
        _ = (acc + 1) * (10 ^ (n - (k + 1)) * 10) := by rw [Nat.mul_assoc, Nat.mul_comm 10]
    · simp

/-- **`ParseSecondFractions` is exact**: a successful result is `0 ≤ ns < 10^9` and equals the digit run (value `v`,
    `n ≤ 9` digits, or any number of zeros) scaled to nanoseconds without any rounding. -/
theorem parseFractions_exact {s : List Nat} {ns : Int} {rest : List Nat} (h : parseFractions s = some (ns, rest)) :
    ∃ v n : Nat, fromChars u32 s = .ok v n rest ∧ ((v = 0 ∧ ns = 0) ∨ (0 < v ∧ n ≤ 9 ∧ ns = ((v * 10 ^ (9 - n) : Nat) : Int))) ∧
      0 ≤ ns ∧ ns < 1000000000 := by
  unfold parseFractions at h
  cases hf : fromChars u32 s with
  | invalid => rw [hf] at h; simp at h
  | range => rw [hf] at h; simp at h
  | ok v n r =>
    rw [hf] at h; simp only at h
    -- the value comes from spanDigits on an unsigned type
    have hv : 0 ≤ v ∧ v.toNat < 10 ^ n := by
      unfold fromChars at hf
      simp only [u32, Bool.false_eq_true, if_false] at hf
      split at hf
      · simp at hf
      · split at hf
        · injection hf with a b c
          have := spanDigits_bound s 0 0
          subst a b
          simp at this ⊢
          omega
        · simp at hf
    by_cases h0 : v = 0
    · simp only [h0, if_true] at h
      injection h with h; injection h with h1 h2
      subst h1 h2
      exact ⟨0, n, by rw [h0]; rfl, Or.inl ⟨rfl, rfl⟩, by omega, by omega⟩
    · simp only [h0, if_false] at h
      split at h
      · rename_i hn
        injection h with h; injection h with h1 h2
        subst h2
        have hvpos : 0 < v.toNat := by omega
        have key := fraction_scaling_exact (n := n) (v := v.toNat) (by omega) hvpos hv.2
        rw [key] at h1
        have hlt := scaled_lt (n := n) (by omega) hv.2
        refine ⟨v.toNat, n, ?_, Or.inr ⟨hvpos, by omega, h1.symm⟩, by omega, by omega⟩
        congr 1; omega
      · simp at h

end BSVerif.Chrono
