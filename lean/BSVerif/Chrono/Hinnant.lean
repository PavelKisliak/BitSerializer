/-
  Howard Hinnant's civil_from_days, as `convert_chrono.h` uses it, in pure integer arithmetic (`civilOf`), is correct
  against the closed-form calendar of `Calendar.lean` for EVERY integer day number.

  One 400-year era has 146097 days; everything outside the era is linear arithmetic. Inside, the year-of-era formula
  is monotone in the day and is evaluated at the first and the last day of each of the 400 years; month and day from
  the day of the (March-based) year are evaluated for its 366 days.
-/
import BSVerif.Chrono.Model
import BSVerif.Chrono.Calendar

namespace BSVerif.Chrono.Hinnant
open BSVerif.Chrono BSVerif.Chrono.Calendar

theorem isLeap_iff (y : Int) : isLeap y = true ↔ (y % 4 = 0 ∧ y % 100 ≠ 0) ∨ y % 400 = 0 := by
  simp [isLeap]

theorem daysBeforeYear_succ (y : Int) : daysBeforeYear (y + 1) = daysBeforeYear y + (if isLeap y then 366 else 365) := by
  unfold daysBeforeYear
  split
  · rename_i h; rw [isLeap_iff] at h; omega
  · rename_i h; rw [isLeap_iff] at h; omega

theorem cumDays_le (m : Nat) : cumDays m ≤ 334 := by
  unfold cumDays; split <;> omega

theorem cumDays_march : ∀ m, m ≤ 12 → 3 ≤ m → 59 ≤ cumDays m := by decide

theorem monthLen_le (y : Int) (m : Nat) : monthLen y m ≤ 31 := by
  unfold monthLen; split <;> (try split) <;> omega

theorem monthLen_of_ne_two {m : Nat} (h : m ≠ 2) (y y' : Int) : monthLen y m = monthLen y' m := by
  unfold monthLen; split <;> first | rfl | exact absurd rfl h

/-- days from 1 March of era-year 0 to 1 March of era-year `y` -/
def yearStart (y : Nat) : Nat := 365 * y + y / 4 - y / 100 + y / 400

/-- the dividend of the code's year of era, `yoe = (doe − doe/1460 + doe/36524 − doe/146096) / 365` -/
def nOf (doe : Nat) : Nat := doe - doe / 1460 + doe / 36524 - doe / 146096
/-- year of era as the code computes it from the day of era -/
def yoeOf (doe : Nat) : Nat := nOf doe / 365

theorem nOf_mono {a b : Nat} (h : a ≤ b) : nOf a ≤ nOf b := by
  unfold nOf; omega

theorem yoeOf_mono {a b : Nat} (h : a ≤ b) : yoeOf a ≤ yoeOf b :=
  Nat.div_le_div_right (nOf_mono h)

/-- the first and the last day of each year of the era get that year; monotonicity does the days between -/
theorem yoeOf_first_last : ∀ y, y < 400 → yoeOf (yearStart y) = y ∧ yoeOf (yearStart (y + 1) - 1) = y := by decide +kernel

theorem yearStart_400 : yearStart 400 = 146097 := by decide

theorem yearStart_of_lt {y : Nat} (h : y < 400) : yearStart y = 365 * y + y / 4 - y / 100 := by
  unfold yearStart; omega

theorem yoe_bracket {doe : Nat} (h : doe < 146097) :
    yoeOf doe < 400 ∧ yearStart (yoeOf doe) ≤ doe ∧ doe < yearStart (yoeOf doe + 1) := by
  have h399 : yoeOf doe ≤ 399 := by
    have := yoeOf_mono (show doe ≤ yearStart (399 + 1) - 1 by rw [yearStart_400]; omega)
    rw [(yoeOf_first_last _ (by omega)).2] at this; exact this
  refine ⟨by omega, ?_, ?_⟩
  · by_cases h0 : yoeOf doe = 0
    · rw [h0]; simp [yearStart]
    · apply Classical.byContradiction; intro hc
      have hlt : doe ≤ yearStart ((yoeOf doe - 1) + 1) - 1 := by
        have : yoeOf doe - 1 + 1 = yoeOf doe := by omega
        rw [this]; omega
      have := yoeOf_mono hlt
      rw [(yoeOf_first_last _ (by omega)).2] at this
      omega
  · apply Classical.byContradiction; intro hc
    have hge : yearStart (yoeOf doe + 1) ≤ doe := by omega
    by_cases h4 : yoeOf doe + 1 < 400
    · have := yoeOf_mono hge
      rw [(yoeOf_first_last _ h4).1] at this
      omega
    · have : yoeOf doe + 1 = 400 := by omega
      rw [this, yearStart_400] at hge
      omega

theorem yoe_unique {doe y : Nat} (hy : y < 400) (h1 : yearStart y ≤ doe) (h2 : doe < yearStart (y + 1)) : yoeOf doe = y := by
  have a := yoeOf_mono h1
  rw [(yoeOf_first_last _ hy).1] at a
  have b := yoeOf_mono (show doe ≤ yearStart (y + 1) - 1 by omega)
  rw [(yoeOf_first_last _ hy).2] at b
  omega

/-- 0-based day inside the March-based year of the civil month/day: 1 March = 0, …, 29 February = 365 -/
def marchDoy (m d : Nat) : Nat := (if m ≥ 3 then cumDays m - 59 else cumDays m + 306) + (d - 1)

/-- month length with the leap-day flag of the February that ENDS the March-based year -/
def monthLenMarch (leapFeb : Bool) (m : Nat) : Nat :=
  if m = 2 then (if leapFeb then 29 else 28) else monthLen 1 m

/-- the month/day computation of the code: mp = (5*doy + 2)/153, d = doy − (153*mp+2)/5 + 1, m = mp<10 ? mp+3 : mp−9 -/
def codeMonthDay (doy : Nat) : Nat × Nat :=
  let mp := (5 * doy + 2) / 153
  (if mp < 10 then mp + 3 else mp - 9, doy - (153 * mp + 2) / 5 + 1)

theorem codeMonthDay_spec : ∀ (leapFeb : Bool) (doy : Nat), doy < (if leapFeb then 366 else 365) →
    1 ≤ (codeMonthDay doy).1 ∧ (codeMonthDay doy).1 ≤ 12 ∧ 1 ≤ (codeMonthDay doy).2 ∧
    (codeMonthDay doy).2 ≤ monthLenMarch leapFeb (codeMonthDay doy).1 ∧
    marchDoy (codeMonthDay doy).1 (codeMonthDay doy).2 = doy := by decide +kernel

/-- the inverse direction used by days_from_civil: doy = (153*(m>2 ? m−3 : m+9) + 2)/5 + d − 1 -/
def codeDoy (m d : Nat) : Nat := (153 * (if m > 2 then m - 3 else m + 9) + 2) / 5 + d - 1

theorem codeDoy_eq_marchDoy {m d : Nat} (hm1 : 1 ≤ m) (hm : m ≤ 12) (hd : 1 ≤ d) : codeDoy m d = marchDoy m d := by
  have tab : ∀ m, m ≤ 12 → 1 ≤ m →
      (153 * (if m > 2 then m - 3 else m + 9) + 2) / 5 = if m ≥ 3 then cumDays m - 59 else cumDays m + 306 := by decide
  unfold codeDoy marchDoy
  rw [tab m hm hm1]; omega

/-- 1 January after the March-based year `yoe` of era `era`: 0000-03-01 is day 60, an era has 146097 days, and from
    1 March to 1 January there are 306 -/
theorem daysBeforeYear_era (era : Int) (yoe : Nat) :
    daysBeforeYear ((yoe : Int) + era * 400 + 1) = era * 146097 + (yearStart yoe : Nat) + 366 := by
  unfold daysBeforeYear yearStart
  omega

/-- day number of a civil date written through its March-based era-year -/
theorem dayNumber_march (era : Int) (yoe : Nat) {m : Nat} (hm : m ≤ 12) (d : Nat) :
    dayNumber ((yoe : Int) + era * 400 + (if m ≤ 2 then 1 else 0)) m d
      = era * 146097 + (yearStart yoe : Nat) + (marchDoy m d : Nat) - 719468 := by
  have e := daysBeforeYear_era era yoe
  have s := daysBeforeYear_succ ((yoe : Int) + era * 400)
  have c := cumDays_march m hm
  unfold dayNumber dayOfYear marchDoy epochOffset
  by_cases h : m ≤ 2
  · simp only [if_pos h, show ¬ m ≥ 3 by omega, show ¬ m > 2 by omega, false_and, if_false]; omega
  · simp only [if_neg h, show m ≥ 3 by omega, show m > 2 by omega, true_and, if_true, Int.add_zero]
    by_cases l : isLeap ((yoe : Int) + era * 400) = true
    · rw [if_pos l] at s ⊢; omega
    · rw [if_neg l] at s ⊢; omega

/-- a March-based year has the length of the civil year in which it ends, whose February it contains; `era` is
    arbitrary because the leap rule has period 400 -/
theorem yearStart_succ (era : Int) (yoe : Nat) :
    yearStart (yoe + 1) = yearStart yoe + (if isLeap ((yoe : Int) + era * 400 + 1) then 366 else 365) := by
  have e1 := daysBeforeYear_era era yoe
  have e2 := daysBeforeYear_era era (yoe + 1)
  have s := daysBeforeYear_succ ((yoe : Int) + era * 400 + 1)
  rw [show ((yoe + 1 : Nat) : Int) + era * 400 + 1 = (yoe : Int) + era * 400 + 1 + 1 by omega] at e2
  by_cases l : isLeap ((yoe : Int) + era * 400 + 1) = true
  · rw [if_pos l] at s ⊢; omega
  · rw [if_neg l] at s ⊢; omega

theorem monthLenMarch_eq (y : Int) (m : Nat) :
    monthLenMarch (isLeap (y + 1)) m = monthLen (y + (if m ≤ 2 then 1 else 0)) m := by
  unfold monthLenMarch
  by_cases h : m = 2
  · subst h; rfl
  · rw [if_neg h]; exact monthLen_of_ne_two h _ _

/-- what `civilFromDays` computes when no 64-bit operation overflows (pure integer arithmetic, floor division) -/
def civilOf (z : Int) : Civil :=
  let z' := z + 719468
  let era := z' / 146097
  let doe := (z' - era * 146097).toNat
  let yoe := yoeOf doe
  let md := codeMonthDay (doe - yearStart yoe)
  ⟨(yoe : Int) + era * 400 + (if md.1 ≤ 2 then 1 else 0), md.1, md.2⟩

theorem civilOf_correct (z : Int) :
    ValidDate (civilOf z).year (civilOf z).mon (civilOf z).day ∧
    dayNumber (civilOf z).year (civilOf z).mon (civilOf z).day = z := by
  simp only [civilOf]
  generalize hera : (z + 719468) / 146097 = era
  generalize hdoe : (z + 719468 - era * 146097).toNat = doe
  have hdoe_lt : doe < 146097 := by omega
  have hz : z + 719468 = era * 146097 + (doe : Int) := by omega
  obtain ⟨hy, hlo, hhi⟩ := yoe_bracket hdoe_lt
  generalize hyoe : yoeOf doe = yoe at hy hlo hhi
  have hlen := yearStart_succ era yoe
  generalize hleap : isLeap ((yoe : Int) + era * 400 + 1) = leapFeb at hlen
  have hdoy : doe - yearStart yoe < (if leapFeb then 366 else 365) := by
    cases leapFeb <;> simp at hlen ⊢ <;> omega
  obtain ⟨m1, m12, d1, dlen, hmd⟩ := codeMonthDay_spec leapFeb _ hdoy
  generalize codeMonthDay (doe - yearStart yoe) = md at m1 m12 d1 dlen hmd
  have hdn := dayNumber_march era yoe m12 md.2
  refine ⟨⟨m1, m12, d1, ?_⟩, ?_⟩
  · have := monthLenMarch_eq ((yoe : Int) + era * 400) md.1
    rw [hleap] at this
    rw [← this]; exact dlen
  · rw [hdn, hmd]; omega

end BSVerif.Chrono.Hinnant
