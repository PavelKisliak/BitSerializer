/-
  The instantiations the Chrono theorems quantify over ("the table"), the ratio and common type of equal arguments,
  the integer types of the chrono model (`Rep`) and truncated division.

  `Rep.wrap` is `IntCast.wrap` and `Rep.fits` is `IntCast.InRange` at the half range `2^(bits-1)`, so narrowing is
  reasoned about for all widths at once; the proofs that follow use `r.lo`, `r.hi` as opaque bounds and only a few
  order facts about them.
-/
import BSVerif.Chrono.Model
import BSVerif.IntCast

namespace BSVerif.Chrono

/-- "The table" is the set of `duration<rep, period>` instantiations the harness drives, `withType`/`withPeriod` of
    /verif/harness/chrono_ops.h: these four representations × the seven periods of `Period.inTable`. -/
def Rep.inTable (r : Rep) : Prop := r = i64 ∨ r = i32 ∨ r = u64 ∨ r = i8
/-- the two representations `SafeDurationCast` is called with as source: int64_t and uint64_t -/
def Rep.is64 (r : Rep) : Prop := r = i64 ∨ r = u64

/-- target periods of the table: ns, µs, ms, s, min, h, d -/
def Period.inTable (p : Period) : Prop :=
  p = pNano ∨ p = pMicro ∨ p = pMilli ∨ p = pSec ∨ p = pMin ∨ p = pHour ∨ p = pDay

/-- periods of the values the parsers feed in: seconds, minutes, hours, days, weeks -/
def Period.isSource (p : Period) : Prop := p = pSec ∨ p = pMin ∨ p = pHour ∨ p = pDay ∨ p = pWeek

@[simp] theorem i64_lo : i64.lo = -9223372036854775808 := by decide
@[simp] theorem i64_hi : i64.hi = 9223372036854775807 := by decide
@[simp] theorem i32_lo : i32.lo = -2147483648 := by decide
@[simp] theorem i32_hi : i32.hi = 2147483647 := by decide
@[simp] theorem i8_lo : i8.lo = -128 := by decide
@[simp] theorem i8_hi : i8.hi = 127 := by decide
@[simp] theorem u64_lo : u64.lo = 0 := by decide
@[simp] theorem u64_hi : u64.hi = 18446744073709551615 := by decide

variable {r rs rt : Rep} {x : Int} {p : Period}

theorem ratioDiv_self (h : 0 < p.num * p.den) : ratioDiv p p = (1, 1) := by
  simp only [ratioDiv, Nat.mul_comm p.den p.num, Nat.gcd_self, Nat.div_self h]

theorem Period.inTable.pos (hp : p.inTable) : 0 < p.num * p.den := by
  rcases hp with rfl | rfl | rfl | rfl | rfl | rfl | rfl <;> decide

theorem commonRep3_u64_right (rt : Rep) : commonRep3 rt u64 = u64 := by simp [commonRep3, u64]
theorem commonRep3_u64_left (rs : Rep) : commonRep3 u64 rs = u64 := by simp [commonRep3, u64]
theorem commonRep3_signed_i64 (h : rt.signed = true) : commonRep3 rt i64 = i64 := by simp [commonRep3, h, i64]
theorem commonRep3_i64_signed (h : rt.signed = true) : commonRep3 i64 rt = i64 := by simp [commonRep3, h, i64]
theorem commonRep3_i64_i64 : commonRep3 i64 i64 = i64 := commonRep3_signed_i64 rfl
theorem commonRep2_i64_i64 : commonRep2 i64 i64 = i64 := by decide

theorem fits_iff (r : Rep) (x : Int) : r.fits x = true ↔ r.lo ≤ x ∧ x ≤ r.hi := by simp [Rep.fits]

theorem wrap_eq_intCast (hb : 0 < r.bits) (x : Int) : r.wrap x = IntCast.wrap r.signed (2 ^ (r.bits - 1)) x := by
  simp only [Rep.wrap, IntCast.wrap, IntCast.two_pow_bits hb]

theorem fits_iff_inRange (hb : 0 < r.bits) (x : Int) : r.fits x = true ↔ IntCast.InRange r.signed (2 ^ (r.bits - 1)) x := by
  simp only [fits_iff, Rep.lo, Rep.hi, IntCast.InRange, IntCast.two_pow_bits hb]

theorem fits_wrap (hb : 0 < r.bits) (x : Int) : r.fits (r.wrap x) = true := by
  rw [fits_iff_inRange hb, wrap_eq_intCast hb]; exact IntCast.wrap_mem (IntCast.two_pow_pos _)

theorem wrap_of_fits (hb : 0 < r.bits) (h : r.fits x = true) : r.wrap x = x := by
  rw [wrap_eq_intCast hb]; exact IntCast.wrap_of_mem (IntCast.two_pow_pos _) ((fits_iff_inRange hb x).1 h)

/-- cast to `rt`, cast back to `rs`, compare, compare signs (the check of `SafeDurationCast`): fails exactly off the
    values of `rt` -/
theorem castCheck_iff (hs : 0 < rs.bits) (ht : 0 < rt.bits) (hx : rs.fits x = true) :
    (x ≠ rs.wrap (rt.wrap x) ∨ (x > 0 ∧ rt.wrap x < 0) ∨ (x < 0 ∧ rt.wrap x > 0)) ↔ ¬ rt.fits x = true := by
  rw [fits_iff_inRange ht, ← IntCast.castBack_iff (IntCast.two_pow_pos _) (IntCast.two_pow_pos _) ((fits_iff_inRange hs x).1 hx),
    ← wrap_eq_intCast ht, ← wrap_eq_intCast hs]
  omega

theorem arith_of_fits (hb : 0 < r.bits) (h : r.fits x = true) : r.arith x = .ok x := by
  simp only [Rep.arith, h, wrap_of_fits hb h, if_true]
  split <;> (try split) <;> rfl

theorem arith_of_unsigned (hs : r.signed = false) (x : Int) : r.arith x = .ok (r.wrap x) := by
  simp only [Rep.arith, hs, Bool.false_eq_true, if_false]

theorem i64_fits_of {x : Int} (h1 : -9223372036854775808 ≤ x) (h2 : x ≤ 9223372036854775807) : i64.fits x = true := by
  rw [fits_iff, i64_lo, i64_hi]; exact ⟨h1, h2⟩

theorem i32_fits_of {x : Int} (h1 : -2147483648 ≤ x) (h2 : x ≤ 2147483647) : i32.fits x = true := by
  rw [fits_iff, i32_lo, i32_hi]; exact ⟨h1, h2⟩

theorem i64_arith_ok {x : Int} (h1 : -9223372036854775808 ≤ x) (h2 : x ≤ 9223372036854775807) : i64.arith x = .ok x :=
  arith_of_fits (by decide) (i64_fits_of h1 h2)

theorem i32_arith_ok {x : Int} (h1 : -2147483648 ≤ x) (h2 : x ≤ 2147483647) : i32.arith x = .ok x :=
  arith_of_fits (by decide) (i32_fits_of h1 h2)

theorem i32_wrap_of_range {x : Int} (h1 : -2147483648 ≤ x) (h2 : x ≤ 2147483647) : i32.wrap x = x :=
  wrap_of_fits (by decide) (i32_fits_of h1 h2)

theorem u32_wrap_of_range {x : Int} (h1 : 0 ≤ x) (h2 : x < 4294967296) : u32.wrap x = x :=
  wrap_of_fits (by decide) (by rw [fits_iff, show u32.lo = 0 by decide, show u32.hi = 4294967295 by decide]; omega)

theorem lo_le_zero_le_hi (hb : 0 < r.bits) : r.lo ≤ 0 ∧ 0 ≤ r.hi := by
  have h1 := IntCast.two_pow_pos (r.bits - 1)
  simp only [Rep.lo, Rep.hi, IntCast.two_pow_bits hb]
  constructor <;> split <;> omega

theorem zero_fits (hb : 0 < r.bits) : r.fits 0 = true := (fits_iff r 0).2 (lo_le_zero_le_hi hb)

theorem lo_of_signed (hs : r.signed = true) : r.lo = -(r.hi + 1) := by
  simp only [Rep.lo, Rep.hi, hs, if_true]; omega

theorem hi_le_u64 (hb : 0 < r.bits) (hb' : r.bits ≤ 64) : r.hi ≤ u64.hi := by
  have h1 : (2 : Int) ^ (r.bits - 1) ≤ 2 ^ 63 := IntCast.two_pow_le (by omega)
  rw [u64_hi]; simp only [Rep.hi, IntCast.two_pow_bits hb]
  split <;> omega

theorem hi_le_i64 (hs : r.signed = true) (hb' : r.bits ≤ 64) : r.hi ≤ i64.hi := by
  have h1 : (2 : Int) ^ (r.bits - 1) ≤ 2 ^ 63 := IntCast.two_pow_le (by omega)
  rw [i64_hi]; simp only [Rep.hi, hs, if_true]; omega

theorem fits_i64_of_signed (hs : r.signed = true) (hb : r.bits ≤ 64) (h : r.fits x = true) : i64.fits x = true := by
  have := hi_le_i64 hs hb
  rw [fits_iff, lo_of_signed hs] at h
  rw [fits_iff, i64_lo]; rw [i64_hi] at this ⊢; omega

theorem tdiv_eq (a : Int) (b : Nat) : tdiv a b = a.tdiv b := by
  unfold tdiv
  split
  · rename_i h
    conv => rhs; rw [← Int.toNat_of_nonneg h]
    rfl
  · conv => rhs; rw [← Int.neg_neg a, Int.neg_tdiv, ← Int.toNat_of_nonneg (show 0 ≤ -a by omega)]
    rfl

theorem tdiv_of_nonneg {a : Int} (b : Nat) (h : 0 ≤ a) : tdiv a b = a / (b : Int) := by
  rw [tdiv_eq, Int.tdiv_eq_ediv_of_nonneg h]

theorem tdiv_neg (a : Int) (b : Nat) : tdiv (-a) b = -tdiv a b := by
  rw [tdiv_eq, tdiv_eq, Int.neg_tdiv]

theorem tdiv_of_neg {a : Int} (b : Nat) (h : a < 0) : tdiv a b = -((-a) / (b : Int)) := by
  rw [← tdiv_of_nonneg b (show 0 ≤ -a by omega), tdiv_neg, Int.neg_neg]

theorem tdiv_zero (n : Nat) : tdiv 0 n = 0 := by rw [tdiv_eq, Int.zero_tdiv]

theorem tdiv_one (x : Int) : tdiv x 1 = x := by rw [tdiv_eq]; exact Int.tdiv_one x

theorem eq_tdiv_of_mul_eq {c v : Int} {d : Nat} (hd : 0 < d) (h : v * d = c) : v = tdiv c d := by
  rw [← h, tdiv_eq, Int.mul_tdiv_cancel _ (by omega)]

theorem ediv_eq_tdiv {c : Int} {d : Nat} (hd : 0 < d) (h : c % (d : Int) = 0) : c / (d : Int) = tdiv c d :=
  eq_tdiv_of_mul_eq hd (Int.ediv_mul_cancel_of_emod_eq_zero h)

theorem tdiv_mul_eq_iff {c : Int} {d : Nat} (hd : 0 < d) : tdiv c d * d = c ↔ c % (d : Int) = 0 :=
  ⟨fun h => h ▸ Int.mul_emod_left _ _, fun h => ediv_eq_tdiv hd h ▸ Int.ediv_mul_cancel_of_emod_eq_zero h⟩

theorem tmod_eq_zero_iff (y : Int) (k : Nat) (hk : 0 < k) : tmod y k = 0 ↔ y % (k : Int) = 0 := by
  unfold tmod; rw [← tdiv_mul_eq_iff hk]; omega

theorem le_tdiv_iff {a x : Int} {n : Nat} (hn : 0 < n) (ha : 0 ≤ a) : x ≤ tdiv a n ↔ x * n ≤ a := by
  rw [tdiv_of_nonneg _ ha]
  exact Int.le_ediv_iff_mul_le (by omega)

theorem tdiv_le_iff {a x : Int} {n : Nat} (hn : 0 < n) (ha : a ≤ 0) : tdiv a n ≤ x ↔ a ≤ x * n := by
  have h := Int.le_ediv_iff_mul_le (a := -x) (b := -a) (c := (n : Int)) (by omega)
  rw [Int.neg_mul] at h
  by_cases h0 : a = 0
  · subst h0; rw [tdiv_zero]; rw [Int.neg_zero, Int.zero_ediv] at h; omega
  · rw [tdiv_of_neg _ (by omega)]; omega

theorem tdiv_between (c : Int) {d : Nat} (hd : 0 < d) :
    (0 ≤ c → 0 ≤ tdiv c d ∧ tdiv c d ≤ tdiv c d * d ∧ tdiv c d * d ≤ c ∧ c < tdiv c d * d + d) ∧
    (c < 0 → tdiv c d ≤ 0 ∧ tdiv c d * d ≤ tdiv c d ∧ c ≤ tdiv c d * d ∧ tdiv c d * d - d < c) := by
  have pos : ∀ c : Int, 0 ≤ c → 0 ≤ tdiv c d ∧ tdiv c d ≤ tdiv c d * d ∧ tdiv c d * d ≤ c ∧ c < tdiv c d * d + d := by
    intro c h
    have hd' : (0 : Int) < d := by omega
    rw [tdiv_of_nonneg _ h]
    have q0 := Int.ediv_nonneg h (Int.le_of_lt hd')
    have a := Int.mul_le_mul_of_nonneg_left (show (1 : Int) ≤ d by omega) q0
    have b := Int.lt_ediv_add_one_mul_self c hd'
    rw [Int.mul_one] at a; rw [Int.add_mul] at b
    exact ⟨q0, a, Int.ediv_mul_le c (Int.ne_of_gt hd'), by omega⟩
  refine ⟨pos c, fun h => ?_⟩
  have := pos (-c) (by omega)
  rw [tdiv_neg, Int.neg_mul] at this
  omega

theorem fits_tdiv (hb : 0 < r.bits) (h : r.fits x = true) {d : Nat} (hd : 0 < d) :
    r.fits (tdiv x d) = true ∧ r.fits (tdiv x d * d) = true := by
  obtain ⟨h1, h2⟩ := tdiv_between x hd
  have := lo_le_zero_le_hi hb
  simp only [fits_iff] at h ⊢; omega

/-- floor quotient and remainder by a positive divisor that is a variable, as facts `omega` can use -/
theorem ediv_emod_bounds (y : Int) {K : Int} (hK : 0 < K) : y - y / K * K = y % K ∧ 0 ≤ y % K ∧ y % K < K := by
  have e := Int.emod_def y K
  rw [Int.mul_comm] at e
  exact ⟨by omega, Int.emod_nonneg y (Int.ne_of_gt hK), Int.emod_lt_of_pos y hK⟩

theorem fits_ediv (hb : 0 < r.bits) (hx : r.fits x = true) {K : Nat} (hK : 0 < K) : r.fits (x / (K : Int)) = true := by
  obtain ⟨h1, h2⟩ := lo_le_zero_le_hi hb
  have hK' : (0 : Int) < K := by omega
  rw [fits_iff] at hx ⊢
  by_cases h0 : 0 ≤ x
  · have := Int.ediv_le_self (K : Int) h0
    have := Int.ediv_nonneg h0 (Int.le_of_lt hK'); omega
  · have a := Int.lt_ediv_add_one_mul_self x hK'
    have b := Int.ediv_neg_of_neg_of_pos (show x < 0 by omega) hK'
    have c := Int.mul_le_mul_of_nonpos_left (show x / (K : Int) + 1 ≤ 0 by omega) (show (1 : Int) ≤ K by omega)
    rw [Int.mul_one] at c; omega

/-- floor division from the truncated quotient, as `std::chrono::floor` does it -/
theorem ediv_eq_tdiv_floor (c : Int) {K : Nat} (hK : 0 < K) :
    c / (K : Int) = if tdiv c K * K > c then tdiv c K - 1 else tdiv c K := by
  obtain ⟨t1, t2⟩ := tdiv_between c hK
  have hK' : (0 : Int) < K := by omega
  have key : ∀ q : Int, q * K ≤ c → c < q * K + K → c / (K : Int) = q := fun q h1 h2 =>
    ((Int.ediv_emod_unique (r := c - q * K) hK').2 ⟨by rw [Int.mul_comm]; omega, by omega, by omega⟩).1
  split
  · have := t2 (by have := t1; omega)
    exact key _ (by rw [Int.sub_mul]; omega) (by rw [Int.sub_mul]; omega)
  · by_cases h : 0 ≤ c
    · have := t1 h; exact key _ (by omega) (by omega)
    · have := t2 (by omega); exact key _ (by omega) (by omega)

end BSVerif.Chrono
