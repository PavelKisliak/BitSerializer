/-
  The link between the Model's `civilFromDays` / `daysFromCivil` (int64 and uint32 arithmetic of the code) and the pure
  calendar functions of `Hinnant.lean`: inside the stated ranges no step overflows or wraps.
-/
import BSVerif.Chrono.Hinnant
import BSVerif.Chrono.IntRep

namespace BSVerif.Chrono
open BSVerif.Chrono.Calendar BSVerif.Chrono.Hinnant

theorem usub_eq {a b : Nat} (hb : b ≤ a) (ha : a < 4294967296) : usub a b = a - b := by
  unfold usub; omega

/-- the era split of both calendar routines: a negative count is shifted so that truncation gives the floor quotient,
    then multiplied back and subtracted; no step leaves int64 and the remainder is a uint32. The era length comes three
    times, as the model has it: `K : Nat` under `tdiv`, the `Int` literal `Ki` as factor, and the shift `j = Ki − 1`;
    a caller gives the three literals and `rfl` twice. -/
theorem era_split {y : Int} {K : Nat} {Ki j : Int} (hKi : (K : Int) = Ki) (hj : j + 1 = Ki) (hj0 : 0 ≤ j) (hK : Ki ≤ 4294967296)
    (h1 : -9223372036854775808 + j ≤ y) (h2 : y ≤ 9223372036854775807) :
    (if y ≥ 0 then Out.ok y else i64.arith (y - j)) = .ok (if y ≥ 0 then y else y - j) ∧
    tdiv (if y ≥ 0 then y else y - j) K = y / Ki ∧
    i64.arith (y / Ki * Ki) = .ok (y / Ki * Ki) ∧ i64.arith (y - y / Ki * Ki) = .ok (y % Ki) ∧
    u32.wrap (y % Ki) = y % Ki ∧ 0 ≤ y % Ki ∧ y % Ki < Ki := by
  have hpos : 0 < Ki := by omega
  obtain ⟨e, r0, r1⟩ := ediv_emod_bounds y hpos
  refine ⟨?_, ?_, i64_arith_ok (by omega) (by omega), ?_, u32_wrap_of_range r0 (by omega), r0, r1⟩
  · split
    · rfl
    · exact i64_arith_ok (by omega) (by omega)
  · subst hKi
    split
    · rename_i h; exact tdiv_of_nonneg _ h
    · -- −(y − j) = (K − 1 − y mod K) + (−(y / K))·K
      rw [tdiv_of_neg _ (by omega), show -(y - j) = (j - y % (K : Int)) + -(y / (K : Int)) * K by rw [Int.neg_mul]; omega,
        Int.add_mul_ediv_right _ _ (Int.ne_of_gt hpos), Int.ediv_eq_zero_of_lt (by omega) (by omega), Int.zero_add, Int.neg_neg]
  · rw [e]; exact i64_arith_ok (by omega) (by omega)

theorem yoe_u32 {doe : Nat} (h : doe < 146097) :
    (usub (usub doe (doe / 1460) + doe / 36524) (doe / 146096)) % 4294967296 / 365 = yoeOf doe := by
  rw [usub_eq (a := doe) (b := doe / 1460) (by omega) (by omega), usub_eq (by omega) (by omega), Nat.mod_eq_of_lt (by omega)]
  rfl

theorem doy_u32 {doe yoe : Nat} (hy : yoe < 400) (hlo : yearStart yoe ≤ doe) (h : doe < 146097) :
    usub doe (usub ((365 * yoe + yoe / 4) % 4294967296) (yoe / 100)) = doe - yearStart yoe := by
  rw [yearStart_of_lt hy] at hlo ⊢
  rw [Nat.mod_eq_of_lt (by omega), usub_eq (a := 365 * yoe + yoe / 4) (b := yoe / 100) (by omega) (by omega),
    usub_eq (by omega) (by omega)]

theorem codeMonthDay_u32 {doy : Nat} (h : doy < 366) :
    ((if (5 * doy + 2) % 4294967296 / 153 < 10 then (5 * doy + 2) % 4294967296 / 153 + 3 else usub ((5 * doy + 2) % 4294967296 / 153) 9),
     (usub doy ((153 * ((5 * doy + 2) % 4294967296 / 153) + 2) % 4294967296 / 5) + 1) % 4294967296) = codeMonthDay doy := by
  rw [Nat.mod_eq_of_lt (show 5 * doy + 2 < 4294967296 by omega)]
  simp only [codeMonthDay]
  generalize hmp : (5 * doy + 2) / 153 = mp
  have hmp_le : mp ≤ 11 := by omega
  rw [Nat.mod_eq_of_lt (a := 153 * mp + 2) (by omega), usub_eq (a := doy) (b := (153 * mp + 2) / 5) (by omega) (by omega),
    Nat.mod_eq_of_lt (a := doy - (153 * mp + 2) / 5 + 1) (by omega)]
  split
  · rfl
  · rw [usub_eq (a := mp) (b := 9) (by omega) (by omega)]

/-- **the Model's civil_from_days equals the pure function whenever `days + 719468` is representable** -/
theorem civilFromDays_eq {z : Int} (h1 : -9223372036854775808 ≤ z) (h2 : z ≤ 9223372036854775807 - 719468) :
    civilFromDays z = .ok (civilOf z) := by
  obtain ⟨s1, s2, s3, s4, s5, r0, r1⟩ := era_split (y := z + 719468) (K := 146097) (Ki := 146097) (j := 146096) rfl rfl (by decide) (by decide)
    (by omega) (by omega)
  unfold civilFromDays civilOf
  rw [i64_arith_ok (x := z + 719468) (by omega) (by omega)]
  simp only [Out.bind_ok, s1, s2, s3, s4, s5]
  have hz : z + 719468 - (z + 719468) / 146097 * 146097 = (z + 719468) % 146097 := by omega
  rw [hz]
  have era1 : -63131837319416 ≤ (z + 719468) / 146097 := by omega
  have era2 : (z + 719468) / 146097 ≤ 63131837319416 := by omega
  generalize (z + 719468) / 146097 = era at *
  generalize hdoe : ((z + 719468) % 146097).toNat = doe
  have hdoe_lt : doe < 146097 := by omega
  clear s1 s2 s3 s4 s5 hz r0 r1 hdoe h1 h2
  obtain ⟨hy, hlo, hhi⟩ := yoe_bracket hdoe_lt
  rw [yoe_u32 hdoe_lt]
  generalize yoeOf doe = yoe at *
  rw [i64_arith_ok (x := era * 400) (by omega) (by omega)]
  simp only [Out.bind_ok]
  rw [i64_arith_ok (x := (yoe : Int) + era * 400) (by omega) (by omega)]
  simp only [Out.bind_ok, doy_u32 hy hlo hdoe_lt]
  have hdoy : doe - yearStart yoe < 366 := by
    have := yearStart_succ era yoe; split at this <;> omega
  generalize doe - yearStart yoe = doy at *
  have hmd := codeMonthDay_u32 hdoy
  rw [Prod.ext_iff] at hmd
  dsimp only at hmd
  rw [hmd.1, hmd.2, i64_arith_ok (by split <;> omega) (by split <;> omega)]
  rfl

/-- **the Model's days_from_civil yields the closed-form day number** for every month/day in the lexical ranges
    and every year whose day number is inside the 64-bit range with the margin the code needs. -/
theorem daysFromCivil_eq {year mon day : Int} (hy1 : -25252000000000000 ≤ year) (hy2 : year ≤ 25252000000000000)
    (hm1 : 1 ≤ mon) (hm2 : mon ≤ 12) (hd1 : 1 ≤ day) (hd2 : day ≤ 31) :
    daysFromCivil year mon day = .ok (dayNumber year mon.toNat day.toNat) := by
  unfold daysFromCivil
  have hadj : (if mon ≤ 2 then (1 : Int) else 0) = if mon.toNat ≤ 2 then 1 else 0 := by
    by_cases h : mon ≤ 2
    · rw [if_pos h, if_pos (by omega)]
    · rw [if_neg h, if_neg (by omega)]
  rw [hadj]
  generalize hm : mon.toNat = m
  generalize hd : day.toNat = d
  have hm1' : 1 ≤ m := by omega
  have hm2' : m ≤ 12 := by omega
  have hd1' : 1 ≤ d := by omega
  have hd2' : d ≤ 31 := by omega
  clear hm hd hadj hm1 hm2 hd1 hd2
  generalize hadj : (if m ≤ 2 then (1 : Int) else 0) = adj
  have hadj01 : 0 ≤ adj ∧ adj ≤ 1 := by subst hadj; split <;> omega
  obtain ⟨s1, s2, s3, s4, s5, r0, r1⟩ := era_split (y := year - adj) (K := 400) (Ki := 400) (j := 399) rfl rfl (by decide) (by decide)
    (by omega) (by omega)
  rw [i64_arith_ok (x := year - adj) (by omega) (by omega)]
  simp only [Out.bind_ok, s1, s2, s3, s4, s5]
  have hyear : year = ((year - adj) % 400).toNat + (year - adj) / 400 * 400 + adj := by omega
  have era1 : -63130000000001 ≤ (year - adj) / 400 := by omega
  have era2 : (year - adj) / 400 ≤ 63130000000000 := by omega
  generalize (year - adj) / 400 = era at *
  generalize hyoe : ((year - adj) % 400).toNat = yoe at *
  have hyoe_lt : yoe < 400 := by omega
  clear s1 s2 s3 s4 s5 r0 r1 hyoe hy1 hy2
  have hguard : ¬ (era > tdiv i64.hi 146097 ∨ era < tdiv i64.lo 146097) := by
    rw [show tdiv i64.hi 146097 = 63131837319416 by decide, show tdiv i64.lo 146097 = -63131837319416 by decide]; omega
  rw [if_neg hguard, i64_arith_ok (x := era * 146097) (by omega) (by omega)]
  simp only [Out.bind_ok]
  have hdoe : yoe * 365 + yoe / 4 - yoe / 100 + ((153 * (if m > 2 then m - 3 else m + 9) + 2) / 5 + d - 1) = yearStart yoe + marchDoy m d := by
    rw [show (153 * (if m > 2 then m - 3 else m + 9) + 2) / 5 + d - 1 = marchDoy m d from codeDoy_eq_marchDoy hm1' hm2' hd1',
      yearStart_of_lt hyoe_lt, Nat.mul_comm]
  have hmd : marchDoy m d ≤ 670 := by
    have := cumDays_le m; unfold marchDoy; split <;> omega
  have hys : yearStart yoe ≤ 146097 := by rw [yearStart_of_lt hyoe_lt]; omega
  rw [hdoe, i32_arith_ok (by omega) (by omega), Out.bind_ok, i64_arith_ok (by omega) (by omega), hyear, ← hadj, dayNumber_march era yoe hm2' d]
  congr 1
  omega

/-- **days_from_civil inverts civil_from_days** on the Model, for every day number with the margin the code needs -/
theorem daysFromCivil_civilFromDays {z : Int} (h1 : -9223000000000000000 ≤ z) (h2 : z ≤ 9223000000000000000) {c : Civil}
    (h : civilFromDays z = .ok c) : daysFromCivil c.year c.mon c.day = .ok z := by
  rw [civilFromDays_eq (by omega) (by omega)] at h
  injection h with h
  subst h
  obtain ⟨⟨m1, m12, d1, dlen⟩, hdn⟩ := civilOf_correct z
  have hd31 : (civilOf z).day ≤ 31 := Nat.le_trans dlen (monthLen_le _ _)
  have hyear : -25252000000000000 ≤ (civilOf z).year ∧ (civilOf z).year ≤ 25252000000000000 := by
    simp only [civilOf]
    have := (yoe_bracket (doe := (z + 719468 - (z + 719468) / 146097 * 146097).toNat) (by omega)).1
    constructor <;> split <;> omega
  have := daysFromCivil_eq hyear.1 hyear.2 (mon := (civilOf z).mon) (day := (civilOf z).day) (by omega) (by omega) (by omega) (by omega)
  rw [this]
  simp only [Int.toNat_natCast]
  rw [hdn]

end BSVerif.Chrono
