/-
  Proof scripts for the division branch of `safeCastCore` when the divisor is a LITERAL (`div_s1 i32 wrap_i32 24`):
  with a literal, the casts and the quotient are linear arithmetic, which the scripts hand to `omega` through the wrap
  facts below. `div_s1` is for a signed target and an int64 source, `div_s2` for a uint64 source; both speak of the
  caller's count `c` (hence `hygiene false`). `safeCastCore_div` proves the branch for every divisor and uses none of this.
-/
import BSVerif.Chrono.IntRep

namespace BSVerif.Chrono

theorem wrap_i64 (x : Int) : -9223372036854775808 ≤ i64.wrap x ∧ i64.wrap x ≤ 9223372036854775807 ∧ (i64.wrap x - x) % 18446744073709551616 = 0 := by
  simp [Rep.wrap, i64]; split <;> omega
theorem wrap_u64 (x : Int) : 0 ≤ u64.wrap x ∧ u64.wrap x ≤ 18446744073709551615 ∧ (u64.wrap x - x) % 18446744073709551616 = 0 := by
  simp [Rep.wrap, u64]; omega
theorem wrap_i32 (x : Int) : -2147483648 ≤ i32.wrap x ∧ i32.wrap x ≤ 2147483647 ∧ (i32.wrap x - x) % 4294967296 = 0 := by
  simp [Rep.wrap, i32]; split <;> omega
theorem wrap_i8 (x : Int) : -128 ≤ i8.wrap x ∧ i8.wrap x ≤ 127 ∧ (i8.wrap x - x) % 256 = 0 := by
  simp [Rep.wrap, i8]; split <;> omega

macro "finish_cast" : tactic =>
  `(tactic| (repeat' split) <;> first | rfl | (exfalso; omega) | (congr 1; omega) | omega)

set_option hygiene false in
macro "div_s1" rt:ident wl:ident D:num : tactic => `(tactic| (
  simp only [show ¬ (($D : Nat) = 1) by decide, if_false, show (($D : Nat) : Int) = $D from rfl]
  have e := wrap_i64 c
  have e' : i64.wrap c = c := by omega
  rw [e']
  have q : tdiv c $D = if 0 ≤ c then c / $D else -((-c) / $D) := by simp only [tdiv]; split <;> omega
  generalize tdiv c $D = Q at *
  have a := $wl Q
  generalize ($rt).wrap Q = V at *
  have w := wrap_i64 V
  have w' : i64.wrap V = V := by omega
  rw [w']
  have x := wrap_i64 (V * $D)
  have x' : i64.wrap (V * $D) = V * $D := by omega
  have hr : -9223372036854775808 ≤ V * $D ∧ V * $D ≤ 9223372036854775807 := by omega
  simp only [hr, and_self, if_true, x']
  clear x x' w w' e e'
  by_cases hx : V * $D = c
  · have : Q = V := by split at q <;> omega
    have : c % $D = 0 ∧ c / $D = V := by omega
    finish_cast
  · finish_cast))

set_option hygiene false in
macro "div_s2" rt:ident wl:ident D:num : tactic => `(tactic| (
  simp only [show ¬ (($D : Nat) = 1) by decide, if_false, show (($D : Nat) : Int) = $D from rfl]
  have e := wrap_u64 c
  have e' : u64.wrap c = c := by omega
  rw [e']
  have q : tdiv c $D = c / $D := by simp only [tdiv]; split <;> omega
  rw [q]
  have a := $wl (c / $D)
  generalize ($rt).wrap (c / $D) = V at *
  have w := wrap_u64 V
  generalize u64.wrap V = W at *
  have x := wrap_u64 (W * $D)
  generalize u64.wrap (W * $D) = X at *
  have y := wrap_u64 X
  have y' : u64.wrap X = X := by omega
  simp only [y']
  clear y y' e e'
  by_cases hv : V < 0
  · have : c > 0 := by clear w x; omega
    clear w x
    finish_cast
  · have : W = V := by omega
    subst this
    by_cases hq : c / $D = W
    · have : X = W * $D := by omega
      finish_cast
    · have : W < c / $D := by omega
      have : X = W * $D := by omega
      finish_cast))

end BSVerif.Chrono
