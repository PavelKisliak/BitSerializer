/-
  The parse side of time points: `tpFromParts` (parsed ISO fields to a count) from the contracts of SafeAdd.lean and
  the calendar theorems of Lemmas.lean, and the field validation of `parseIsoUtc8`.
-/
import BSVerif.Chrono.SafeAdd
import BSVerif.Chrono.Lemmas
import BSVerif.Chrono.Durations

namespace BSVerif.Chrono
open BSVerif.Chrono.Calendar BSVerif.Generated.Chrono

theorem Out.bind_eq_ok {α β : Type} {x : Out α} {f : α → Out β} {u : β} (h : (x >>= f) = .ok u) : ∃ a, x = .ok a ∧ f a = .ok u := by
  cases x with
  | ok a => exact ⟨a, rfl, h⟩
  | err e => cases h
  | ub k => cases h

/-- the ratio `nd` of `safeAddTp_spec` for a source in seconds, and in days -/
theorem ratio_sec {p : Period} (hp : p.inTable) :
    (if pSec = p then ((1 : Nat), (1 : Nat)) else ratioDiv pSec p) = (p.den, p.num) := by
  rcases hp with rfl | rfl | rfl | rfl | rfl | rfl | rfl <;> decide

theorem ratio_day {p : Period} (hp : p.inTable) :
    (if pDay = p then ((1 : Nat), (1 : Nat)) else ratioDiv pDay p) = (p.perDay, 1) := by
  rcases hp with rfl | rfl | rfl | rfl | rfl | rfl | rfl <;> decide

theorem dayNumber_fits {y : Int} {m d : Nat} (hy1 : -25252000000000000 ≤ y) (hy2 : y ≤ 25252000000000000) (hd : d ≤ 31) :
    i64.fits (dayNumber y m d) = true := by
  rw [fits_iff]
  have := Hinnant.cumDays_le m
  simp only [dayNumber, daysBeforeYear, dayOfYear, epochOffset, i64_lo, i64_hi]
  split <;> omega

theorem addDays_exact {r : Rep} (hr : r.inTable) {p : Period} (hp : p.inTable) {tp D v : Int} (htp : r.fits tp = true)
    (hD : i64.fits D = true) (h : safeAddTp r p tp i64 pDay D = .ok v) :
    r.fits v = true ∧ v * p.num = tp * p.num + D * 86400 * p.den := by
  rw [safeAddTp_spec hr hp (Or.inl (Or.inr (Or.inr (Or.inr (Or.inl rfl))))) htp hD, ratio_day hp] at h
  by_cases h0 : D = 0
  · simp only [h0, if_true] at h
    injection h with h; subst h
    exact ⟨htp, by rw [h0]; simp⟩
  · simp only [h0, if_false] at h
    split at h
    · rename_i hc
      injection h with h; subst h
      refine ⟨hc.2.2, ?_⟩
      have hP : (p.perDay : Int) * p.num = 86400 * p.den := by rw [← Int.natCast_mul, perDay_mul hp]; rfl
      rw [Int.natCast_one, Int.ediv_one, Int.add_mul, Int.mul_assoc, hP, Int.mul_assoc]
    · exact absurd h (by simp)

/-- when the conversion of parsed fields without a fraction succeeds, the count is inside the target representation
    and is exactly the denoted instant: count·num = seconds·den -/
theorem tpFromParts_exact {r : Rep} (hr : r.inTable) {p : Period} (hp : p.inTable) {u : Parts} (hfrac : u.frac = none)
    (hy1 : -25252000000000000 ≤ u.year) (hy2 : u.year ≤ 25252000000000000)
    (hm1 : 1 ≤ u.mon) (hm2 : u.mon ≤ 12) (hd1 : 1 ≤ u.day) (hd2 : u.day ≤ 31)
    (hh : 0 ≤ u.hour ∧ u.hour ≤ 23) (hmi : 0 ≤ u.min ∧ u.min ≤ 59) (hs : 0 ≤ u.sec ∧ u.sec ≤ 59)
    {v : Int} (h : tpFromParts r p u = .ok v) :
    r.fits v = true ∧
    v * p.num = (dayNumber u.year u.mon.toNat u.day.toNat * 86400 + (u.hour * 3600 + u.min * 60 + u.sec)) * p.den := by
  have hz := zero_fits hr.isTarget.bits.1
  unfold tpFromParts at h
  rw [daysFromCivil_eq hy1 hy2 hm1 hm2 hd1 hd2, hfrac] at h
  simp only [Out.bind_ok] at h
  have hDfit := dayNumber_fits (m := u.mon.toNat) (d := u.day.toNat) hy1 hy2 (by omega)
  generalize dayNumber u.year u.mon.toNat u.day.toNat = D at *
  generalize hT : u.hour * 3600 + u.min * 60 + u.sec = T at *
  rw [safeAddTp_spec hr hp (Or.inl (Or.inl rfl)) hz (by rw [fits_iff]; simp; omega), ratio_sec hp] at h
  by_cases h0 : T = 0
  · simp only [h0, if_true, Out.bind_ok] at h
    have := addDays_exact hr hp hz hDfit h
    refine ⟨this.1, ?_⟩
    rw [this.2, h0]; simp
  · simp only [h0, if_false] at h
    split at h
    · rename_i hc
      simp only [Out.bind_ok] at h
      have := addDays_exact hr hp hc.2.2 hDfit h
      refine ⟨this.1, ?_⟩
      rw [this.2]
      obtain ⟨hex, -, -⟩ := hc
      simp only [Int.zero_add] at hex ⊢
      have := Int.ediv_mul_cancel (Int.dvd_of_emod_eq_zero hex)
      rw [this, Int.add_mul]
      omega
    · exact absurd h (by simp)

theorem parsePart_bounds {s : List Nat} {r : Rep} {lo hi : Int} {dl : Option Nat} {isYear : Bool} {v : Int} {rest : List Nat}
    (h : parsePart s r (some lo) (some hi) dl isYear = .ok (v, rest)) : lo ≤ v ∧ v ≤ hi := by
  unfold parsePart at h
  cases s with
  | nil => simp at h
  | cons c t =>
    simp only at h
    by_cases hc : isDigit c = true ∨ isYear = true
    · simp only [hc, if_true] at h
      generalize (if isYear = true ∧ c = 43 ∧ headIsDigit t = true then t else c :: t) = s' at h
      cases hf : fromChars r s' with
      | ok v' n rest' =>
        rw [hf] at h; simp only at h
        by_cases hb : ltOpt v' (some lo) = true ∨ gtOpt v' (some hi) = true
        · simp [hb] at h
        · simp only [hb, if_false] at h
          have hv : lo ≤ v' ∧ v' ≤ hi := by
            simp only [ltOpt, gtOpt, decide_eq_true_eq, not_or, Int.not_lt] at hb
            omega
          have : v = v' := by
            cases dl with
            | none => simp at h; exact h.1.symm
            | some d =>
              cases rest' with
              | nil => simp at h
              | cons x r' =>
                simp only at h
                split at h
                · simp at h; exact h.1.symm
                · simp at h
          subst this; exact hv
      | range => rw [hf] at h; simp at h
      | invalid => rw [hf] at h; simp at h
    · simp [hc] at h

/-- the named table of the code agrees with the calendar: entry m−1 is the length of month m in a leap year -/
theorem daysInMonth_entry : ∀ m, m < 12 → daysInMonth.getD m 0 = monthLen 2000 (m + 1) := by decide

theorem daysInMonth_of_month (m : Nat) (h1 : 1 ≤ m) (h2 : m ≤ 12) : daysInMonth.getD (m - 1) 0 = monthLen 2000 m := by
  have := daysInMonth_entry (m - 1) (by omega)
  rwa [show m - 1 + 1 = m by omega] at this

/-- the leap-year test of the code (on truncated remainders) is the calendar's -/
theorem isLeap_of_tmod {y : Int} (h : ¬ (tmod y 4 ≠ 0 ∨ (tmod y 100 = 0 ∧ tmod y 400 ≠ 0))) : isLeap y = true := by
  simp only [ne_eq, tmod_eq_zero_iff y 4 (by decide), tmod_eq_zero_iff y 100 (by decide), tmod_eq_zero_iff y 400 (by decide)] at h
  rw [Hinnant.isLeap_iff]
  by_cases c : y % 100 = 0
  · exact Or.inr (Classical.byContradiction fun h4 => h (Or.inr ⟨c, h4⟩))
  · exact Or.inl ⟨Classical.byContradiction fun h4 => h (Or.inl h4), c⟩

/-- the tail of `parseIsoUtc8` (optional fraction already read, then 'Z' and the trailer) keeps the fields. The function
    under the bind is the text `unfold parseIsoUtc8` leaves; `X` is the step that reads the fraction, whatever it does. -/
theorem parseTail_fields {X : Out (Option Int × List Nat)} {y mo d hr mi sec : Int} {u : Parts}
    (h : (X >>= fun (x : Option Int × List Nat) =>
      match x.2 with
      | 90 :: rest =>
        (match rest with
         | c :: _ => if isSpace c then Out.ok (⟨y, mo, d, hr, mi, sec, x.1⟩ : Parts) else .err .invalidArgument
         | [] => .ok ⟨y, mo, d, hr, mi, sec, x.1⟩)
      | _ => .err .invalidArgument) = .ok u) :
    u.year = y ∧ u.mon = mo ∧ u.day = d ∧ u.hour = hr ∧ u.min = mi ∧ u.sec = sec := by
  obtain ⟨fs, -, h⟩ := Out.bind_eq_ok h
  split at h
  · split at h
    · split at h
      · cases h; exact ⟨rfl, rfl, rfl, rfl, rfl, rfl⟩
      · cases h
    · cases h; exact ⟨rfl, rfl, rfl, rfl, rfl, rfl⟩
  · cases h

/-- whatever `ParseIsoUtc` accepts has a day that exists in that month of that year of the proleptic Gregorian
    calendar (so 29 February only in leap years) and a 24-hour clock time -/
theorem parseIsoUtc8_valid {s : List Nat} {u : Parts} (h : parseIsoUtc8 s = .ok u) :
    ValidDate u.year u.mon.toNat u.day.toNat ∧ 1 ≤ u.mon ∧ u.mon ≤ 12 ∧ 1 ≤ u.day ∧ u.day ≤ 31 ∧
    0 ≤ u.hour ∧ u.hour ≤ 23 ∧ 0 ≤ u.min ∧ u.min ≤ 59 ∧ 0 ≤ u.sec ∧ u.sec ≤ 59 := by
  unfold parseIsoUtc8 at h
  obtain ⟨⟨y, s1⟩, -, h⟩ := Out.bind_eq_ok h
  obtain ⟨⟨mo, s2⟩, hmo, h⟩ := Out.bind_eq_ok h
  obtain ⟨⟨d, s3⟩, hd, h⟩ := Out.bind_eq_ok h
  dsimp only at h
  split at h
  · cases h
  rename_i hfeb
  obtain ⟨⟨hr, s4⟩, hh, h⟩ := Out.bind_eq_ok h
  obtain ⟨⟨mi, s5⟩, hmi, h⟩ := Out.bind_eq_ok h
  obtain ⟨⟨sec, s6⟩, hsec, h⟩ := Out.bind_eq_ok h
  obtain ⟨e1, e2, e3, e4, e5, e6⟩ := parseTail_fields h
  have bmo := parsePart_bounds hmo
  have bd := parsePart_bounds hd
  have bh := parsePart_bounds hh
  have bmi := parsePart_bounds hmi
  have bs := parsePart_bounds hsec
  rw [e1, e2, e3, e4, e5, e6]
  rw [show (mo - 1).toNat = mo.toNat - 1 by omega, daysInMonth_of_month mo.toNat (by omega) (by omega)] at bd
  have hd31 := Hinnant.monthLen_le 2000 mo.toNat
  refine ⟨⟨by omega, by omega, by omega, ?_⟩, bmo.1, bmo.2, bd.1, by omega, bh.1, bh.2, bmi.1, bmi.2, bs.1, bs.2⟩
  by_cases hm2 : mo.toNat = 2
  · rw [hm2] at bd ⊢
    rw [show monthLen 2000 2 = 29 by decide] at bd
    by_cases h29 : d = 29
    · have hl := isLeap_of_tmod fun hx => hfeb ⟨by omega, h29, hx⟩
      simp only [monthLen, hl, if_true]; omega
    · simp only [monthLen]; split <;> omega
  · rw [Hinnant.monthLen_of_ne_two hm2 y 2000]; omega

end BSVerif.Chrono
