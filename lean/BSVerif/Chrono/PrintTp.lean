/-
  Printing of time points: for int64 counts the Model's `printTp` hands exactly the calendar fields of the instant
  (Spec calendar via `civilOf`, time of day, fraction) to `printIsoUtc`, without undefined behaviour, for every count
  that is not in one of the two recorded classes (first partial day of the range, int64 day counts next to the maximum).
-/
import BSVerif.Chrono.Lemmas
import BSVerif.Chrono.Durations
namespace BSVerif.Chrono
open BSVerif.Chrono.Hinnant BSVerif.Generated.Chrono

theorem hms_fields {S : Int} (h0 : 0 ≤ S) (h1 : S < 86400) :
    i32.wrap (tdiv S 3600) = S / 3600 ∧ i32.wrap (tdiv (tmod S 3600) 60) = S % 3600 / 60 ∧ i32.wrap (tmod S 60) = S % 60 := by
  have m1 : tmod S 3600 = S % 3600 := by unfold tmod; rw [tdiv_of_nonneg _ h0]; omega
  have m2 : tmod S 60 = S % 60 := by unfold tmod; rw [tdiv_of_nonneg _ h0]; omega
  rw [m1, m2, tdiv_of_nonneg _ h0, tdiv_of_nonneg _ (by omega)]
  exact ⟨i32_wrap_of_range (by omega) (by omega), i32_wrap_of_range (by omega) (by omega), i32_wrap_of_range (by omega) (by omega)⟩

theorem civil_md_wrap (D : Int) :
    i32.wrap ((civilOf D).mon : Int) = (civilOf D).mon ∧ i32.wrap ((civilOf D).day : Int) = (civilOf D).day := by
  obtain ⟨⟨m1, m12, d1, dlen⟩, -⟩ := civilOf_correct D
  have := monthLen_le (civilOf D).year (civilOf D).mon
  exact ⟨i32_wrap_of_range (by omega) (by omega), i32_wrap_of_range (by omega) (by omega)⟩

/-- the int64 counts outside the two recorded classes: the midnight before the instant is representable, and (for day
    precision) the day count is at least 719468 below the maximum -/
def Printable (p : Period) (c : Int) : Prop :=
  -9223372036854775808 ≤ c ∧ c ≤ 9223372036854775807 ∧
  -9223372036854775808 ≤ c / (p.perDay : Int) * p.perDay ∧ c / (p.perDay : Int) ≤ 9223372036854775807 - 719468

instance (p : Period) (c : Int) : Decidable (Printable p c) := by unfold Printable; infer_instance

/-- split of a count into whole days `D` and the rest `T`, with the bounds the conversions need -/
theorem day_split {P : Nat} (hP : 0 < P) {c : Int} (h1 : -9223372036854775808 ≤ c) (h2 : c ≤ 9223372036854775807)
    (h3 : -9223372036854775808 ≤ c / (P : Int) * P) :
    c - c / (P : Int) * P = c % (P : Int) ∧ 0 ≤ c % (P : Int) ∧ c % (P : Int) < P ∧
    i64.fits (c / (P : Int)) = true ∧ i64.fits (c / (P : Int) * P) = true ∧ i64.fits (c % (P : Int)) = true := by
  have hP' : (0 : Int) < P := by omega
  obtain ⟨e, r0, r1⟩ := ediv_emod_bounds c hP'
  refine ⟨e, r0, r1, fits_ediv (by decide) (i64_fits_of h1 h2) hP, i64_fits_of h3 (by omega), i64_fits_of (by omega) ?_⟩
  by_cases h0 : 0 ≤ c
  · have := Int.mul_nonneg (Int.ediv_nonneg h0 (Int.le_of_lt hP')) (Int.le_of_lt hP'); omega
  · -- a negative quotient times `P` is at most `-P`, so `P ≤ 2^63`
    have := Int.mul_le_mul_of_nonneg_right (show c / (P : Int) ≤ -1 from by
      have := Int.ediv_neg_of_neg_of_pos (show c < 0 by omega) hP'; omega) (Int.le_of_lt hP')
    omega

/-- the whole seconds `T·num/den` of a time of day of `T` periods, for the two kinds of period of `coarser_sec`. For a
    fraction of the second also `den ∣ perDay`: that is why the fraction of the day's rest `c mod perDay` is `c mod den`. -/
theorem sec_of_day {p : Period} (hp : p.inTable) {T : Int} (T0 : 0 ≤ T) (T1 : T < p.perDay) :
    0 ≤ T * p.num / p.den ∧ T * p.num / p.den < 86400 ∧
    ((p.num = 1 ∧ Coarser pSec p p.den ∧ T * p.num / p.den = T / p.den ∧ (p.den : Int) ∣ p.perDay) ∨
     (p.den = 1 ∧ Coarser p pSec p.num ∧ T * p.num / p.den = T * p.num)) := by
  rcases coarser_sec hp with ⟨hnum, hP, hsec⟩ | ⟨hden, hP, hsec⟩
  · have hd : (0 : Int) < p.den := by have := hsec.pos; omega
    rw [hnum, Int.natCast_one, Int.mul_one]
    exact ⟨Int.ediv_nonneg T0 (Int.le_of_lt hd), Int.ediv_lt_of_lt_mul hd (by rw [hP] at T1; omega),
      .inl ⟨rfl, hsec, rfl, hP ▸ ⟨86400, by simp [Int.mul_comm]⟩⟩⟩
  · have hn : (0 : Int) < p.num := by have := hsec.pos; omega
    have a := Int.mul_le_mul_of_nonneg_right (show T + 1 ≤ p.perDay by omega) (Int.le_of_lt hn)
    rw [Int.add_mul, ← Int.natCast_mul, hP] at a
    rw [hden, Int.natCast_one, Int.ediv_one]
    exact ⟨Int.mul_nonneg T0 (Int.le_of_lt hn), by omega, .inr ⟨rfl, hsec, rfl⟩⟩

theorem print_tp_fields {p : Period} (hp : p.inTable) {c : Int} (h : Printable p c) :
    printTp i64 p c =
      printIsoUtc utcBufSize (civilOf (c / (p.perDay : Int))).year (civilOf (c / (p.perDay : Int))).mon (civilOf (c / (p.perDay : Int))).day
        (c % (p.perDay : Int) * p.num / p.den / 3600) (c % (p.perDay : Int) * p.num / p.den % 3600 / 60) (c % (p.perDay : Int) * p.num / p.den % 60)
        (if p.den > 1 then some (c % (p.den : Int), p.den) else none) := by
  obtain ⟨h1, h2, h3, h4⟩ := h
  have hday := coarser_day hp
  obtain ⟨hT, T0, T1, fD, fDP, fT⟩ := day_split hday.pos h1 h2 h3
  have hD : -9223372036854775808 ≤ c / (p.perDay : Int) := by rw [fits_iff, i64_lo] at fD; exact fD.1
  unfold printTp
  rw [floorDur_down hday (i64_fits_of h1 h2), Out.bind_ok, durationCast_up hday fD fDP, Out.bind_ok, hT, arith_of_fits (by decide) fT,
    Out.bind_ok]
  generalize c / (p.perDay : Int) = D at *
  generalize hTd : c % (p.perDay : Int) = T at *
  obtain ⟨S0, S1, hS⟩ := sec_of_day hp T0 T1
  have key : floorDur i64 pSec i64 p T = .ok (T * p.num / p.den) ∧
      (p.den > 1 → ∃ hsec : Coarser pSec p p.den, T * p.num / p.den * p.den ≤ T ∧ T - T * p.num / p.den * p.den = c % (p.den : Int)) := by
    rcases hS with ⟨-, hsec, e, hdvd⟩ | ⟨hden, hsec, e⟩
    · have hd : (0 : Int) < p.den := by have := hsec.pos; omega
      -- `den ∣ perDay`, so `c` and `T = c mod perDay` leave the same remainder
      have hF : c % (p.den : Int) = T % (p.den : Int) := by rw [← hTd, Int.emod_emod_of_dvd c hdvd]
      obtain ⟨em, F0, -⟩ := ediv_emod_bounds T hd
      rw [e, hF]
      exact ⟨floorDur_down hsec fT, fun _ => ⟨hsec, by omega, em⟩⟩
    · rw [e] at S0 S1 ⊢
      exact ⟨floorDur_up hsec fT (i64_fits_of (by omega) (by omega)), fun h => by omega⟩
  generalize T * (p.num : Int) / p.den = S at *
  obtain ⟨hS, hfr⟩ := key
  obtain ⟨e1, e2, e3⟩ := hms_fields S0 S1
  rw [hS, Out.bind_ok, civilFromDays_eq hD h4, Out.bind_ok]
  simp only [e1, e2, e3, (civil_md_wrap D).1, (civil_md_wrap D).2]
  by_cases hd : p.den > 1
  · obtain ⟨hsec, hle, hf⟩ := hfr hd
    have fS : i64.fits S = true := i64_fits_of (by omega) (by omega)
    have hd0 : (0 : Int) ≤ p.den := by omega
    have fSd : i64.fits (S * p.den) = true := by
      have := Int.mul_nonneg S0 hd0; rw [fits_iff, i64_lo, i64_hi] at fT; exact i64_fits_of (by omega) (by omega)
    have fF : i64.fits (T - S * p.den) = true := by
      have := Int.mul_nonneg S0 hd0; rw [fits_iff, i64_lo, i64_hi] at fT; exact i64_fits_of (by omega) (by omega)
    rw [if_pos hd, if_pos hd, commonRep2_i64_i64, durationCast_self hsec.fine fT, Out.bind_ok,
      durationCast_up hsec fS fSd, Out.bind_ok, arith_of_fits (by decide) fF, hf, Out.bind_ok]
  · rw [if_neg hd, if_neg hd]

end BSVerif.Chrono
