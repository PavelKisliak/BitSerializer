/-
  Print → parse round trip at the level of the calendar fields: what `printTp` hands to the formatter, converted back by
  `tpFromParts`, is the original count.
-/
import BSVerif.Chrono.PrintTp
import BSVerif.Chrono.ParseTp
namespace BSVerif.Chrono
open BSVerif.Chrono.Hinnant BSVerif.Chrono.Calendar

theorem hms_recompose (S : Int) : S / 3600 * 3600 + S % 3600 / 60 * 60 + S % 60 = S := by omega

/-- adding the time of day (whole seconds that are a multiple of the period) to the epoch -/
theorem addSec_i64 {p : Period} (hp : p.inTable) {S : Int} (h0 : 0 ≤ S) (h1 : S < 86400) (hex : S * p.den % p.num = 0)
    (hfit : i64.fits (S * p.den / p.num) = true) :
    safeAddTp i64 p 0 i64 pSec S = .ok (S * p.den / p.num) := by
  rw [safeAddTp_spec (Or.inl rfl) hp (Or.inl (Or.inl rfl)) (by decide) (i64_fits_of (by omega) (by omega)), ratio_sec hp]
  by_cases hs : S = 0
  · simp [hs]
  · simp only [hs, if_false, hex, commonRep3_i64_i64, Int.zero_add, hfit, and_self, if_true]

theorem addFrac_i64 {p : Period} (hp : p.inTable) {tp F : Int} (htp : i64.fits tp = true) (h0 : 0 ≤ F) (h1 : F < 1000000000)
    (hsum : tp + F ≤ 9223372036854775807) :
    safeAddTp i64 p tp i64 p F = .ok (tp + F) := by
  rw [safeAddTp_spec (Or.inl rfl) hp (Or.inr rfl) htp (i64_fits_of (by omega) (by omega))]
  rw [fits_iff] at htp; simp at htp
  by_cases hf : F = 0
  · simp [hf]
  · simp only [hf, if_false, if_true, commonRep3_i64_i64]
    have e : F * ((1 : Nat) : Int) / ((1 : Nat) : Int) = F := by simp
    simp only [e, i64_fits_of (x := F) (by omega) (by omega), i64_fits_of (x := tp + F) (by omega) (by omega), and_self, and_true]
    simp

/-- adding the day count when both the midnight and the sum are representable -/
theorem addDays_i64 {p : Period} (hp : p.inTable) {tp D : Int} (htp : i64.fits tp = true) (hD : i64.fits D = true)
    (hmid : i64.fits (D * p.perDay) = true) (hsum : i64.fits (tp + D * p.perDay) = true) :
    safeAddTp i64 p tp i64 pDay D = .ok (tp + D * p.perDay) := by
  rw [safeAddTp_spec (Or.inl rfl) hp (Or.inl (Or.inr (Or.inr (Or.inr (Or.inl rfl))))) htp hD, ratio_day hp]
  by_cases hd : D = 0
  · simp [hd]
  · simp only [hd, if_false, commonRep3_i64_i64]
    have e : D * (p.perDay : Int) / ((1 : Nat) : Int) = D * p.perDay := by simp
    have e2 : D * (p.perDay : Int) % ((1 : Nat) : Int) = 0 := by simp
    simp only [e, e2, hmid, hsum, and_self, if_true]

/-- the fields of `print_tp_fields`, with the fraction scaled to nanoseconds as the lexer delivers it, converted back
    by `tpFromParts`, give the original count -/
theorem fields_roundtrip {p : Period} (hp : p.inTable) {c : Int} (h : Printable p c)
    (hcal : -9223000000000000000 ≤ c / (p.perDay : Int) ∧ c / (p.perDay : Int) ≤ 9223000000000000000) :
    tpFromParts i64 p
      ⟨(civilOf (c / (p.perDay : Int))).year, (civilOf (c / (p.perDay : Int))).mon, (civilOf (c / (p.perDay : Int))).day,
       c % (p.perDay : Int) * p.num / p.den / 3600, c % (p.perDay : Int) * p.num / p.den % 3600 / 60, c % (p.perDay : Int) * p.num / p.den % 60,
       if p.den > 1 then some (c % (p.den : Int) * ((1000000000 / p.den : Nat) : Int)) else none⟩ = .ok c := by
  obtain ⟨h1, h2, h3, -⟩ := h
  have hday := coarser_day hp
  obtain ⟨hT, T0, T1, fD, fDP, fT⟩ := day_split hday.pos h1 h2 h3
  unfold tpFromParts
  dsimp only
  rw [daysFromCivil_civilFromDays hcal.1 hcal.2 (civilFromDays_eq (by omega) (by omega))]
  simp only [Out.bind_ok, hms_recompose]
  -- after the time of day and the fraction the count is `T = c mod perDay`
  have key : ∃ tp, safeAddTp i64 p 0 i64 pSec (c % (p.perDay : Int) * p.num / p.den) = .ok tp ∧
      (if p.den > 1 then ∃ F, roundTo p (c % (p.den : Int) * ((1000000000 / p.den : Nat) : Int)) = .ok F ∧
          safeAddTp i64 p tp i64 p F = .ok (c % (p.perDay : Int))
       else tp = c % (p.perDay : Int)) := by
    generalize hTd : c % (p.perDay : Int) = T at *
    obtain ⟨S0, S1, hS⟩ := sec_of_day hp T0 T1
    rcases hS with ⟨hnum, hsec, e, hdvd⟩ | ⟨hden, hsec, e⟩
    · have hd : (0 : Int) < p.den := by have := hsec.pos; omega
      rw [e] at S0 S1 ⊢
      obtain ⟨em, F0, F1⟩ := ediv_emod_bounds T hd
      have a0 := Int.mul_nonneg S0 (Int.le_of_lt hd)
      have hfit : i64.fits (T / (p.den : Int) * p.den) = true := by
        rw [fits_iff, i64_lo, i64_hi] at fT; exact i64_fits_of (by omega) (by omega)
      have k1 := addSec_i64 hp S0 S1 (by rw [hnum]; simp) (by rw [hnum, Int.natCast_one, Int.ediv_one]; exact hfit)
      rw [hnum, Int.natCast_one, Int.ediv_one] at k1
      refine ⟨_, k1, ?_⟩
      by_cases hd1 : p.den > 1
      · obtain ⟨hnano, hK⟩ := coarser_nano hp hd1
        -- `den ∣ perDay`, so `c` and `T = c mod perDay` leave the same remainder
        have hF : c % (p.den : Int) = T % (p.den : Int) := by rw [← hTd, Int.emod_emod_of_dvd c hdvd]
        have hK0 : (0 : Int) ≤ ((1000000000 / p.den : Nat) : Int) := Int.natCast_nonneg _
        have m := Int.mul_le_mul_of_nonneg_right (show T % (p.den : Int) + 1 ≤ p.den by omega) hK0
        have hden9 : (p.den : Int) ≤ 1000000000 := by
          have := Int.mul_le_mul_of_nonneg_left (show (1 : Int) ≤ ((1000000000 / p.den : Nat) : Int) by
            have := hnano.pos; omega) (Int.le_of_lt hd)
          omega
        rw [fits_iff, i64_lo, i64_hi] at fT
        rw [if_pos hd1, hF]
        refine ⟨_, roundTo_of_multiple hnano F0 (by omega), ?_⟩
        rw [addFrac_i64 hp hfit F0 (by omega) (by omega)]
        congr 1; omega
      · have : p.den = 1 := by have := hsec.pos; omega
        rw [if_neg hd1, this, Int.natCast_one, Int.ediv_one, Int.mul_one]
    · have hn : (0 : Int) < p.num := by have := hsec.pos; omega
      rw [e] at S0 S1 ⊢
      have e1 : T * (p.num : Int) * ((1 : Nat) : Int) / (p.num : Int) = T := by
        rw [Int.natCast_one, Int.mul_one, Int.mul_ediv_cancel _ (Int.ne_of_gt hn)]
      have k1 := addSec_i64 hp S0 S1 (by rw [hden]; simp) (by rw [hden, e1]; exact fT)
      rw [hden, e1] at k1
      exact ⟨_, k1, by rw [if_neg (by omega)]⟩
  obtain ⟨tp, k1, k2⟩ := key
  have hc : c % (p.perDay : Int) + c / (p.perDay : Int) * p.perDay = c := by omega
  have days : safeAddTp i64 p (c % (p.perDay : Int)) i64 pDay (c / (p.perDay : Int)) = .ok c := by
    rw [addDays_i64 hp fT fD fDP (by rw [hc]; exact i64_fits_of h1 h2), hc]
  rw [k1, Out.bind_ok]
  by_cases hd1 : p.den > 1
  · rw [if_pos hd1] at k2 ⊢
    obtain ⟨F, r1, r2⟩ := k2
    simp only [r1, r2, Out.bind_ok, days]
  · rw [if_neg hd1] at k2 ⊢
    subst k2
    simp only [Out.bind_ok, days]

end BSVerif.Chrono
