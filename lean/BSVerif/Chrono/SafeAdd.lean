/-
  Contracts of `SafeDurationCast` over the periods of the table and of the two `SafeAddDuration`
  overloads (checked addition): exact result inside the target representation, or out_of_range.

  The left sides of `checked_add`, `safeAddTp_tail` and `safeAddDur_tail` are the ends of `safeAddTp` and `safeAddDur` in
  the very form `unfold` leaves them in, so that each closes its goal by `exact`.
-/
import BSVerif.Chrono.SafeCast

namespace BSVerif.Chrono

variable {r rt rs : Rep} {p pt ps : Period}

/-- every ratio between a source period and a table period is `n/1` or `1/d` -/
theorem ratio_shape (hpt : pt.inTable) (hps : ps.isSource) :
    ((ratioDiv ps pt).2 = 1 ∧ 1 ≤ (ratioDiv ps pt).1) ∨ ((ratioDiv ps pt).1 = 1 ∧ 2 ≤ (ratioDiv ps pt).2) := by
  rcases hpt with rfl | rfl | rfl | rfl | rfl | rfl | rfl <;> rcases hps with rfl | rfl | rfl | rfl | rfl <;> decide

theorem safeDurationCast_of_shape (hrt : rt.isTarget) (hrs : rs.is64) (hpt : 0 < pt.num * pt.den)
    (hshape : ((ratioDiv ps pt).2 = 1 ∧ 1 ≤ (ratioDiv ps pt).1) ∨ ((ratioDiv ps pt).1 = 1 ∧ 2 ≤ (ratioDiv ps pt).2))
    {c : Int} (hc : rs.fits c = true) :
    safeDurationCast rt pt rs ps c = castSpec rt (ratioDiv ps pt).1 (ratioDiv ps pt).2 c := by
  unfold safeDurationCast
  by_cases hsame : rt = rs ∧ pt = ps
  · obtain ⟨rfl, rfl⟩ := hsame
    simp [hc, castSpec, ratioDiv_self hpt]
  · rw [if_neg hsame]
    exact safeCastCore_spec hrt hrs hc hshape

/-- **SafeDurationCast contract**: the exact value `c·n/d` when it is an integer that fits `rt`, out_of_range otherwise. -/
theorem safeDurationCast_spec {rt rs : Rep} (hrt : rt.inTable) (hrs : rs.is64) {pt ps : Period} (hpt : pt.inTable) (hps : ps.isSource)
    {c : Int} (hc : rs.fits c = true) :
    safeDurationCast rt pt rs ps c = castSpec rt (ratioDiv ps pt).1 (ratioDiv ps pt).2 c :=
  safeDurationCast_of_shape hrt.isTarget hrs hpt.pos (ratio_shape hpt hps) hc

theorem safeDurationCast_same_period (hrt : rt.isTarget) (hrs : rs.is64) (hp : 0 < p.num * p.den) {c : Int} (hc : rs.fits c = true) :
    safeDurationCast rt p rs p c = if rt.fits c then .ok c else .err .outOfRange := by
  rw [safeDurationCast_of_shape hrt hrs hp (by rw [ratioDiv_self hp]; exact Or.inl ⟨rfl, Nat.le_refl 1⟩) hc, ratioDiv_self hp]
  simp [castSpec]

/-- the checked addition at the end of both `SafeAddDuration` overloads: limit minus addend in the operation type `op`,
    comparison, then the addition `add`, which is exact whenever the sum is a value of `r` -/
theorem checked_add {op : Rep} (ho : 0 < op.bits) {t a : Int} {add : Out Int} (ht : r.fits t = true)
    (hhi : 0 < a → op.fits (r.hi - a) = true) (hlo : a < 0 → op.fits (r.lo - a) = true)
    (hadd : r.fits (t + a) = true → add = .ok (t + a)) :
    (if a > 0 then do
       let m ← op.arith (r.hi - a)
       if t > m then .err .outOfRange else add
     else if a < 0 then do
       let m ← op.arith (r.lo - a)
       if t < m then .err .outOfRange else add
     else add) = if r.fits (t + a) then .ok (t + a) else .err .outOfRange := by
  rw [fits_iff] at ht
  by_cases hf : r.fits (t + a) = true
  · rw [if_pos hf, hadd hf]
    rw [fits_iff] at hf
    by_cases hp : a > 0
    · rw [if_pos hp, arith_of_fits ho (hhi hp), Out.bind_ok, if_neg (by omega)]
    · rw [if_neg hp]
      by_cases hn : a < 0
      · rw [if_pos hn, arith_of_fits ho (hlo hn), Out.bind_ok, if_neg (by omega)]
      · rw [if_neg hn]
  · rw [if_neg hf]
    rw [fits_iff] at hf
    by_cases hp : a > 0
    · rw [if_pos hp, arith_of_fits ho (hhi hp), Out.bind_ok, if_pos (by omega)]
    · have hn : a < 0 := by omega
      rw [if_neg hp, if_pos hn, arith_of_fits ho (hlo hn), Out.bind_ok, if_pos (by omega)]

/-- the end of `SafeAddDuration(time_point&, …)`: `tp` is taken into the operation type, the sum back into `r` -/
theorem safeAddTp_tail (hr : r.isTarget) {tp a : Int} (htp : r.fits tp = true) (ha : (commonRep3 i64 r).fits a = true) :
    (let op := commonRep3 i64 r
     let add : Out Int := do
       let n ← op.arith (op.wrap tp + a)
       .ok (r.wrap n)
     if a > 0 then do
       let m ← op.arith (r.hi - a)
       if op.wrap tp > m then .err .outOfRange else add
     else if a < 0 then do
       let m ← op.arith (r.lo - a)
       if op.wrap tp < m then .err .outOfRange else add
     else add) = if r.fits (tp + a) then .ok (tp + a) else .err .outOfRange := by
  obtain ⟨hb, hb'⟩ := hr.bits
  obtain ⟨h1, h2⟩ := lo_le_zero_le_hi hb
  dsimp only
  rcases hr with ⟨hsg, -, -⟩ | rfl
  · have hop := commonRep3_i64_signed hsg
    have h3 := hi_le_i64 hsg hb'
    rw [hop] at ha ⊢
    rw [wrap_of_fits (by decide) (fits_i64_of_signed hsg hb' htp)]
    rw [fits_iff, i64_lo, i64_hi] at ha; rw [i64_hi] at h3
    refine checked_add (by decide) htp (fun _ => ?_) (fun _ => ?_) (fun hf => ?_)
    · rw [fits_iff, i64_lo, i64_hi]; omega
    · rw [fits_iff, i64_lo, i64_hi, lo_of_signed hsg]; omega
    · rw [arith_of_fits (by decide) (fits_i64_of_signed hsg hb' hf), Out.bind_ok, wrap_of_fits hb hf]
  · rw [commonRep3_u64_right] at ha ⊢
    rw [wrap_of_fits (by decide) htp]
    rw [fits_iff, u64_lo] at ha
    refine checked_add (by decide) htp (fun _ => ?_) (fun _ => ?_) (fun hf => ?_)
    · rw [fits_iff, u64_lo]; omega
    · omega
    · rw [arith_of_fits (by decide) hf, Out.bind_ok, wrap_of_fits (by decide) hf]

/-- **SafeAddDuration(time_point) contract** for an int64 source whose ratio to `p` is `n/1` or `1/d` (1/1 for the same
    period): `tp + src·n/d` when the converted duration is exact, fits the 64-bit operation type
    (`common_type<int64_t, r>`) and the sum fits `r`; out_of_range otherwise; never undefined behaviour, never a
    wrapped sum. -/
theorem safeAddTp_of_shape (hr : r.isTarget) (hp : 0 < p.num * p.den)
    (hshape : ((ratioDiv ps p).2 = 1 ∧ 1 ≤ (ratioDiv ps p).1) ∨ ((ratioDiv ps p).1 = 1 ∧ 2 ≤ (ratioDiv ps p).2))
    {tp src : Int} (htp : r.fits tp = true) (hsrc : i64.fits src = true) :
    safeAddTp r p tp i64 ps src =
      if src = 0 then .ok tp else
      if (src * (ratioDiv ps p).1) % (ratioDiv ps p).2 = 0 ∧
          (commonRep3 i64 r).fits (src * (ratioDiv ps p).1 / (ratioDiv ps p).2) ∧ r.fits (tp + src * (ratioDiv ps p).1 / (ratioDiv ps p).2)
      then .ok (tp + src * (ratioDiv ps p).1 / (ratioDiv ps p).2) else .err .outOfRange := by
  unfold safeAddTp
  by_cases h0 : src = 0
  · simp [h0]
  simp only [h0, if_false]
  have hop : (commonRep3 i64 r).isTarget := by
    rcases hr with ⟨hsg, -, -⟩ | rfl
    · rw [commonRep3_i64_signed hsg]; exact Or.inl ⟨rfl, by decide, by decide⟩
    · exact Or.inr (commonRep3_u64_right _)
  rw [safeDurationCast_of_shape hop (Or.inl rfl) hp hshape hsrc, castSpec]
  generalize ratioDiv ps p = nd
  by_cases hex : (src * (nd.1 : Int)) % (nd.2 : Int) = 0 ∧ (commonRep3 i64 r).fits (src * (nd.1 : Int) / (nd.2 : Int)) = true
  · simp only [hex, and_self, if_true, true_and]
    exact safeAddTp_tail hr htp hex.2
  · have hnot : ¬ ((src * (nd.1 : Int)) % (nd.2 : Int) = 0 ∧ (commonRep3 i64 r).fits (src * (nd.1 : Int) / (nd.2 : Int)) = true ∧
        r.fits (tp + src * (nd.1 : Int) / (nd.2 : Int)) = true) := fun ⟨h1, h2, _⟩ => hex ⟨h1, h2⟩
    simp only [hex, hnot, if_false]

theorem safeAddTp_spec {r : Rep} (hr : r.inTable) {p ps : Period} (hp : p.inTable) (hps : ps.isSource ∨ ps = p)
    {tp src : Int} (htp : r.fits tp = true) (hsrc : i64.fits src = true) :
    safeAddTp r p tp i64 ps src =
      if src = 0 then .ok tp else
      let nd := if ps = p then (1, 1) else ratioDiv ps p
      if (src * nd.1) % nd.2 = 0 ∧ (commonRep3 i64 r).fits (src * nd.1 / nd.2) ∧ r.fits (tp + src * nd.1 / nd.2)
      then .ok (tp + src * nd.1 / nd.2) else .err .outOfRange := by
  -- the `if` of the statement says no more than `ratioDiv p p = (1, 1)`
  have hself := ratioDiv_self hp.pos
  rw [safeAddTp_of_shape hr.isTarget hp.pos
    (hps.elim (ratio_shape hp) fun h => by rw [h, hself]; exact Or.inl ⟨rfl, Nat.le_refl 1⟩) htp hsrc]
  by_cases h : ps = p
  · rw [if_pos h, h, hself]
  · rw [if_neg h]

theorem safeAddDur_tail (hb : 0 < r.bits) {target a : Int} (ht : r.fits target = true) (ha : r.fits a = true) :
    (if a > 0 then do
       let m ← r.arith (r.hi - a)
       if target > m then .err .outOfRange else r.arith (target + a)
     else if a < 0 then do
       let m ← r.arith (r.lo - a)
       if target < m then .err .outOfRange else r.arith (target + a)
     else r.arith (target + a)) = if r.fits (target + a) then .ok (target + a) else .err .outOfRange := by
  obtain ⟨h1, h2⟩ := lo_le_zero_le_hi hb
  rw [fits_iff] at ha
  refine checked_add hb ht (fun _ => ?_) (fun _ => ?_) (arith_of_fits hb) <;> rw [fits_iff] <;> omega

/-- **SafeAddDuration(duration) contract**, source already of the target type: exact sum or out_of_range -/
theorem safeAddDur_same (hb : 0 < r.bits) (p : Period) {target src : Int} (ht : r.fits target = true) (hs : r.fits src = true) :
    safeAddDur r p target r p src =
      if src = 0 then .ok target else if r.fits (target + src) then .ok (target + src) else .err .outOfRange := by
  unfold safeAddDur
  by_cases h0 : src = 0
  · simp [h0]
  · simp only [h0, if_false, safeDurationCast, and_self, if_true, Out.bind_ok]
    exact safeAddDur_tail hb ht hs

/-- **SafeAddDuration(duration) contract**, int64 source of the same period (the rounded fraction): the source must
    fit the target type and so must the sum; out_of_range otherwise — never a wrapped value. -/
theorem safeAddDur_i64 (hr : r.isTarget) (hp : 0 < p.num * p.den) {target src : Int} (ht : r.fits target = true)
    (hs : i64.fits src = true) :
    safeAddDur r p target i64 p src =
      if src = 0 then .ok target else if r.fits src ∧ r.fits (target + src) then .ok (target + src) else .err .outOfRange := by
  unfold safeAddDur
  by_cases h0 : src = 0
  · simp [h0]
  · simp only [h0, if_false]
    rw [safeDurationCast_same_period hr (Or.inl rfl) hp hs]
    by_cases hf : r.fits src = true
    · simp only [hf, if_true, Out.bind_ok, true_and]
      exact safeAddDur_tail hr.bits.1 ht hf
    · simp [hf]

end BSVerif.Chrono
