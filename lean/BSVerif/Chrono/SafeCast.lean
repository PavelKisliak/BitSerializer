/-
  `SafeDurationCast` of the Model meets its contract: the result is the exact converted value when it exists and
  fits the target representation, `out_of_range` otherwise — never a wrapped or truncated value and never
  undefined behaviour. Proved for every signed target of at most 64 bits and for uint64, the two 64-bit source
  representations the code uses (int64_t for seconds/days/rounded fractions, uint64_t for the numbers of a
  duration string), ALL counts and all ratios n/1 and 1/d.

  The left sides of `narrow_checked`, `mul_checked` and `div_fit` are branches of `safeCastCore` in the very form
  `simp only [safeCastCore]` leaves them in, so that each closes its branch by `exact`.
-/
import BSVerif.Chrono.IntRep

namespace BSVerif.Chrono

/-- what SafeDurationCast must compute: the exact value `c·n/d` when it is an integer and fits -/
def castSpec (rt : Rep) (n d : Nat) (c : Int) : Out Int :=
  if (c * n) % d = 0 ∧ rt.fits (c * n / d) then .ok (c * n / d) else .err .outOfRange

/-- the targets covered: for an unsigned target narrower than the operation type the product `v * d` of the division
    branch can overflow `intmax_t` -/
def Rep.isTarget (r : Rep) : Prop := (r.signed = true ∧ 0 < r.bits ∧ r.bits ≤ 64) ∨ r = u64

theorem Rep.inTable.isTarget {r : Rep} (h : r.inTable) : r.isTarget := by
  rcases h with rfl | rfl | rfl | rfl <;> (unfold Rep.isTarget; decide)

theorem Rep.isTarget.bits {r : Rep} (h : r.isTarget) : 0 < r.bits ∧ r.bits ≤ 64 := by
  rcases h with ⟨-, h1, h2⟩ | rfl
  · exact ⟨h1, h2⟩
  · decide

variable {rt rs op : Rep} {c : Int}

theorem u64_wrap_neg (h1 : i64.fits c = true) (h2 : c < 0) : u64.wrap c = c + 18446744073709551616 := by
  have hm := fits_wrap (r := u64) (by decide) c
  have hw := @IntCast.wrap_window false 9223372036854775808 c
  rw [show IntCast.wrap false 9223372036854775808 c = u64.wrap c from (wrap_eq_intCast (r := u64) (by decide) c).symm] at hw
  rw [fits_iff, i64_lo] at h1; rw [fits_iff, u64_lo, u64_hi] at hm
  omega

/-- the guard against overflow of `c * n` in the operation type -/
theorem mul_guard_iff (ho : 0 < op.bits) {n : Nat} (hn : 0 < n) :
    (c > tdiv op.hi n ∨ c < tdiv op.lo n) ↔ ¬ op.fits (c * n) = true := by
  obtain ⟨h1, h2⟩ := lo_le_zero_le_hi ho
  have := le_tdiv_iff (x := c) hn h2
  have := tdiv_le_iff (x := c) hn h1
  rw [fits_iff]; omega

/-- narrowing with the check of `SafeDurationCast`: the value itself, or out_of_range -/
theorem narrow_checked (hs : 0 < rs.bits) (ht : 0 < rt.bits) {x : Int} (hx : rs.fits x = true) :
    (if x ≠ rs.wrap (rt.wrap x) ∨ (x > 0 ∧ rt.wrap x < 0) ∨ (x < 0 ∧ rt.wrap x > 0) then Out.err .outOfRange else .ok (rt.wrap x))
    = if rt.fits x then .ok x else .err .outOfRange := by
  simp only [castCheck_iff hs ht hx]
  by_cases hf : rt.fits x = true
  · simp only [hf, not_true, if_false, if_true, wrap_of_fits ht hf]
  · simp only [hf, Bool.false_eq_true, not_false_eq_true, if_true, if_false]

theorem safeCastCore_id (ht : 0 < rt.bits) (hs : 0 < rs.bits) (hc : rs.fits c = true) :
    safeCastCore rt rs 1 1 c = if rt.fits c then .ok c else .err .outOfRange := by
  simp only [safeCastCore, if_true]
  exact narrow_checked hs ht hc

/-- the multiplication branch on a count the operation type holds: guard, product, narrowing with check -/
theorem mul_checked (ht : 0 < rt.bits) (ho : 0 < op.bits) {n : Nat} (hn : 0 < n)
    (hsub : rt.fits (c * n) = true → op.fits (c * n) = true) :
    (if c > tdiv op.hi n ∨ c < tdiv op.lo n then Out.err .outOfRange else do
      let v ← op.arith (c * n)
      let t := rt.wrap v
      if v ≠ op.wrap t ∨ (v > 0 ∧ t < 0) ∨ (v < 0 ∧ t > 0) then .err .outOfRange else .ok t)
    = if rt.fits (c * n) then .ok (c * n) else .err .outOfRange := by
  simp only [mul_guard_iff ho hn]
  by_cases hf : op.fits (c * n) = true
  · rw [if_neg (not_not_intro hf), arith_of_fits ho hf]
    exact narrow_checked ho ht hf
  · rw [if_pos hf, if_neg (mt hsub hf)]

theorem safeCastCore_mul (hrt : rt.isTarget) (hrs : rs.is64) (hc : rs.fits c = true) {n : Nat} (hn : 2 ≤ n) :
    safeCastCore rt rs n 1 c = if rt.fits (c * n) then .ok (c * n) else .err .outOfRange := by
  obtain ⟨hb, hb'⟩ := hrt.bits
  have hn0 : 0 < n := by omega
  simp only [safeCastCore, if_true, show ¬ n = 1 by omega, if_false]
  rcases hrs with rfl | rfl
  · rcases hrt with ⟨hsg, -, -⟩ | rfl
    · rw [commonRep3_signed_i64 hsg, wrap_of_fits (by decide) hc]
      exact mul_checked hb (by decide) hn0 (fits_i64_of_signed hsg hb')
    · rw [commonRep3_u64_left]
      by_cases h0 : 0 ≤ c
      · have hc' : u64.fits c = true := by rw [fits_iff, i64_lo, i64_hi] at hc; rw [fits_iff, u64_lo, u64_hi]; omega
        rw [wrap_of_fits (by decide) hc']
        exact mul_checked (by decide) (by decide) hn0 id
      · -- a negative count becomes at least 2^63 in uint64, and `n ≥ 2`
        have hneg : c * (n : Int) < 0 := Int.mul_neg_of_neg_of_pos (by omega) (by omega)
        rw [u64_wrap_neg hc (by omega), u64_hi]
        rw [fits_iff, i64_lo] at hc
        have hg := le_tdiv_iff (a := 18446744073709551615) (x := c + 18446744073709551616) hn0 (by decide)
        have hm := Int.mul_le_mul_of_nonneg_left (a := 2) (b := n) (c := c + 18446744073709551616) (by omega) (by omega)
        rw [if_pos (Or.inl (by omega)), if_neg (by rw [fits_iff, u64_lo]; omega)]
  · rw [commonRep3_u64_right, wrap_of_fits (by decide) hc]
    refine mul_checked hb (by decide) hn0 fun h => ?_
    have := hi_le_u64 hb hb'
    have := Int.mul_nonneg (a := c) (b := n)
    rw [fits_iff] at h hc ⊢; rw [u64_lo] at hc ⊢; omega

/-- the division branch when the operation type holds the count and the target holds the quotient: every
    intermediate value lies between 0 and `c`, so no cast changes it and nothing overflows -/
theorem div_fit (ho : 0 < op.bits) (ht : 0 < rt.bits) (hs : 0 < rs.bits) (hoc : op.fits c = true) (hc : rs.fits c = true)
    {d : Nat} (hd : 0 < d) (hq : rt.fits (tdiv c d) = true) :
    (do let pr ← op.arith (op.wrap (rt.wrap (tdiv c d)) * d)
        if rs.wrap pr ≠ c ∨ (c > 0 ∧ rt.wrap (tdiv c d) < 0) ∨ (c < 0 ∧ rt.wrap (tdiv c d) > 0) then .err .outOfRange
        else .ok (rt.wrap (tdiv c d)))
    = if c % (d : Int) = 0 ∧ rt.fits (c / (d : Int)) then .ok (c / (d : Int)) else .err .outOfRange := by
  obtain ⟨ho1, ho2⟩ := fits_tdiv ho hoc hd
  rw [wrap_of_fits ht hq, wrap_of_fits ho ho1, arith_of_fits ho ho2]
  simp only [Out.bind_ok, wrap_of_fits hs (fits_tdiv hs hc hd).2]
  obtain ⟨b1, b2⟩ := tdiv_between c hd
  by_cases hex : c % (d : Int) = 0
  · rw [if_neg (by have := (tdiv_mul_eq_iff hd).2 hex; omega), ediv_eq_tdiv hd hex, if_pos ⟨hex, hq⟩]
  · rw [if_pos (Or.inl (mt (tdiv_mul_eq_iff hd).1 hex)), if_neg (fun h => hex h.1)]

theorem safeCastCore_div (hrt : rt.isTarget) (hrs : rs.is64) (hc : rs.fits c = true) {d : Nat} (hd : 2 ≤ d) :
    safeCastCore rt rs 1 d c = if c % (d : Int) = 0 ∧ rt.fits (c / (d : Int)) then .ok (c / (d : Int)) else .err .outOfRange := by
  obtain ⟨hb, hb'⟩ := hrt.bits
  have hd0 : 0 < d := by omega
  simp only [safeCastCore, if_true, show ¬ d = 1 by omega, if_false]
  -- when the target does not hold the quotient, no exact quotient fits it
  have hunfit : ∀ {x : Int}, ¬ rt.fits (tdiv x d) = true → ¬ (x % (d : Int) = 0 ∧ rt.fits (x / (d : Int)) = true) :=
    fun hq h => hq (ediv_eq_tdiv hd0 h.1 ▸ h.2)
  rcases hrs with rfl | rfl
  · rcases hrt with ⟨hsg, -, -⟩ | rfl
    · rw [commonRep3_signed_i64 hsg, wrap_of_fits (by decide) hc]
      by_cases hq : rt.fits (tdiv c d) = true
      · exact div_fit (by decide) hb (by decide) hc hc hd0 hq
      · -- the wrapped quotient `v` is no larger in absolute value than the quotient, so `v * d` is an int64
        have hv := fits_wrap hb (tdiv c d)
        have hv64 : i64.fits (rt.wrap (tdiv c d) * d) = true := by
          obtain ⟨b1, b2⟩ := tdiv_between c hd0
          rw [fits_iff, lo_of_signed hsg] at hv hq
          rw [fits_iff, i64_lo, i64_hi] at hc ⊢
          generalize rt.wrap (tdiv c d) = v at hv ⊢
          have hd' : (0 : Int) ≤ d := by omega
          by_cases h0 : 0 ≤ c
          · have m1 := Int.mul_le_mul_of_nonneg_right (show -tdiv c d ≤ v by omega) hd'
            have m2 := Int.mul_le_mul_of_nonneg_right (show v ≤ tdiv c d by omega) hd'
            rw [Int.neg_mul] at m1; omega
          · have m1 := Int.mul_le_mul_of_nonneg_right (show tdiv c d ≤ v by omega) hd'
            have m2 := Int.mul_le_mul_of_nonneg_right (show v + 1 ≤ -tdiv c d by omega) hd'
            rw [Int.neg_mul, Int.add_mul] at m2; omega
        rw [wrap_of_fits (by decide) (fits_i64_of_signed hsg hb' hv), arith_of_fits (by decide) hv64]
        simp only [Out.bind_ok, wrap_of_fits (by decide) hv64]
        rw [if_pos (Or.inl fun h => hq (eq_tdiv_of_mul_eq hd0 h ▸ hv)), if_neg (hunfit hq)]
    · rw [commonRep3_u64_left]
      by_cases h0 : 0 ≤ c
      · have hc' : u64.fits c = true := by rw [fits_iff, i64_lo, i64_hi] at hc; rw [fits_iff, u64_lo, u64_hi]; omega
        rw [wrap_of_fits (by decide) hc']
        exact div_fit (by decide) (by decide) (by decide) hc' hc hd0 (fits_tdiv (by decide) hc' hd0).1
      · -- a negative count becomes positive in uint64: either the quotient is positive too, or it is 0 ≠ c
        have hoc := fits_wrap (r := u64) (by decide) c
        obtain ⟨hq1, hq2⟩ := fits_tdiv (by decide) hoc hd0
        rw [wrap_of_fits (by decide) hq1, wrap_of_fits (by decide) hq1, arith_of_fits (by decide) hq2]
        simp only [Out.bind_ok]
        have hneg : c / (d : Int) < 0 := Int.ediv_neg_of_neg_of_pos (by omega) (by omega)
        have hR : ¬ (c % (d : Int) = 0 ∧ u64.fits (c / (d : Int)) = true) := fun h => by
          rw [fits_iff, u64_lo] at h; omega
        rw [if_neg hR]
        rw [fits_iff, u64_lo] at hq1
        by_cases hz : tdiv (u64.wrap c) d = 0
        · rw [hz, Int.zero_mul, wrap_of_fits (by decide) (by decide), if_pos (Or.inl (by omega))]
        · rw [if_pos (Or.inr (Or.inr (by omega)))]
  · rw [commonRep3_u64_right, wrap_of_fits (by decide) hc]
    by_cases hq : rt.fits (tdiv c d) = true
    · exact div_fit (by decide) hb (by decide) hc hc hd0 hq
    · -- the quotient exceeds the target's range: the wrapped quotient `v` is negative, or `v * d < c`
      have hv := fits_wrap hb (tdiv c d)
      obtain ⟨b1, -⟩ := tdiv_between c hd0
      have := lo_le_zero_le_hi hb
      have := hi_le_u64 hb hb'
      rw [fits_iff] at hv hq
      rw [fits_iff, u64_lo] at hc
      rw [arith_of_unsigned rfl]
      simp only [Out.bind_ok, wrap_of_fits (r := u64) (by decide) (fits_wrap (by decide) _)]
      generalize rt.wrap (tdiv c d) = v at hv ⊢
      by_cases hneg : v < 0
      · rw [if_pos (Or.inr (Or.inl (by omega))), if_neg (hunfit (by rw [fits_iff]; exact hq))]
      · have m := Int.mul_le_mul_of_nonneg_right (show v + 1 ≤ tdiv c d by omega) (show (0 : Int) ≤ d by omega)
        have m0 := Int.mul_nonneg (show 0 ≤ v by omega) (show (0 : Int) ≤ d by omega)
        rw [Int.add_mul] at m
        have hvd : u64.fits (v * d) = true := by rw [fits_iff, u64_lo]; omega
        rw [wrap_of_fits (x := v) (by decide) (by rw [fits_iff, u64_lo]; omega), wrap_of_fits (by decide) hvd,
          if_pos (Or.inl (by omega)), if_neg (hunfit (by rw [fits_iff]; exact hq))]

/-- **the body of SafeDurationCast** for every ratio `n/1` and `1/d` -/
theorem safeCastCore_spec (hrt : rt.isTarget) (hrs : rs.is64) (hc : rs.fits c = true) {n d : Nat}
    (h : (d = 1 ∧ 1 ≤ n) ∨ (n = 1 ∧ 2 ≤ d)) : safeCastCore rt rs n d c = castSpec rt n d c := by
  have hs : 0 < rs.bits := by rcases hrs with rfl | rfl <;> decide
  rcases h with ⟨rfl, hn⟩ | ⟨rfl, hd⟩
  · by_cases h1 : n = 1
    · subst h1; rw [safeCastCore_id hrt.bits.1 hs hc]; simp [castSpec]
    · rw [safeCastCore_mul hrt hrs hc (by omega)]; simp [castSpec]
  · rw [safeCastCore_div hrt hrs hc hd]; simp [castSpec]

end BSVerif.Chrono
