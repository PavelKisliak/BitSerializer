/-
  The loops of the container loaders in closed form.
  `specLoad L slots items`: element i is `load items[i]` applied to slot i if that slot exists, else to the
  value-initialised value; the result has exactly `items.length` elements.
-/
import BSVerif.Cont.Model

namespace BSVerif.Cont

variable {ι α : Type}

/-- the result of `Serialize` for this item does not depend on what the target held before -/
def PriorIndep (L : Loader ι α) (it : ι) : Prop := ∀ a b, L.load it a = L.load it b

theorem scalar_priorIndep {β : Type} (d : β) (it : Option β) (h : it.isSome = true) : PriorIndep (scalar d) it := by
  cases it with
  | none => simp at h
  | some v => intro a b; rfl

def specLoad (L : Loader ι α) : List α → List ι → List α
  | _, [] => []
  | [], it :: its => (L.load it L.dflt).2 :: specLoad L [] its
  | c :: cs, it :: its => (L.load it c).2 :: specLoad L cs its

@[simp] theorem specLoad_length (L : Loader ι α) (c : List α) (its : List ι) : (specLoad L c its).length = its.length := by
  induction its generalizing c with
  | nil => cases c <;> simp [specLoad]
  | cons it its ih => cases c <;> simp [specLoad, ih]

theorem specLoad_nil (L : Loader ι α) (its : List ι) : specLoad L [] its = its.map fun it => (L.load it L.dflt).2 := by
  induction its with
  | nil => rfl
  | cons it its ih => simp [specLoad, ih]

theorem specLoad_eq_mapIdx (L : Loader ι α) (c : List α) (its : List ι) :
    specLoad L c its = its.mapIdx fun i it => (L.load it (c[i]?.getD L.dflt)).2 := by
  induction its generalizing c with
  | nil => cases c <;> simp [specLoad]
  | cons it its ih =>
    cases c with
    | nil => simp [specLoad, List.mapIdx_cons, ih]
    | cons c cs => simp [specLoad, List.mapIdx_cons, ih]

/-- two slot lists give the same result when they agree wherever the item looks at its slot -/
theorem specLoad_congr (L : Loader ι α) (c c' : List α) (its : List ι)
    (h : ∀ (i : Nat) (hi : i < its.length), PriorIndep L its[i] ∨ c[i]?.getD L.dflt = c'[i]?.getD L.dflt) :
    specLoad L c its = specLoad L c' its := by
  rw [specLoad_eq_mapIdx, specLoad_eq_mapIdx, List.mapIdx_eq_mapIdx_iff]
  intro i hi
  rcases h i hi with hp | he
  · rw [hp]
  · rw [he]

theorem resize_zero (d : α) (l : List α) : resize d 0 l = [] := by simp [resize]

theorem resize_succ_cons (d : α) (n : Nat) (x : α) (l : List α) : resize d (n + 1) (x :: l) = x :: resize d n l := by
  simp [resize]

theorem resize_length_self (d : α) (l : List α) : resize d l.length l = l := by simp [resize]

theorem resize_nil (d : α) (n : Nat) : resize d n ([] : List α) = List.replicate n d := by simp [resize]

@[simp] theorem resize_length (d : α) (n : Nat) (l : List α) : (resize d n l).length = n := by
  simp [resize]; omega

theorem resize_getElem? (d : α) (n : Nat) (l : List α) (i : Nat) (hi : i < n) :
    (resize d n l)[i]?.getD d = l[i]?.getD d := by
  simp only [resize, List.getElem?_append, List.length_take, List.getElem?_take, List.getElem?_replicate]
  by_cases h : i < l.length
  · have : i < min n l.length := by omega
    simp [this, hi]
  · have h1 : ¬ i < min n l.length := by omega
    have h2 : l[i]? = none := List.getElem?_eq_none (by omega)
    simp only [h1, if_false, h2, Option.getD_none]
    split <;> rfl

theorem resize_getD_of_length_le (d : α) (n : Nat) {l : List α} {i : Nat} (h : l.length ≤ i) :
    (resize d n l)[i]?.getD d = d := by
  by_cases hi : i < n
  · rw [resize_getElem? d n l i hi, List.getElem?_eq_none h]; rfl
  · rw [List.getElem?_eq_none (by rw [resize_length]; omega)]; rfl

theorem loadRest_spec (L : Loader ι α) (cont : List α) (its : List ι) (n : Nat) :
    loadRest L cont its n = (cont ++ its.map (fun it => (L.load it L.dflt).2), n + its.length) := by
  induction its generalizing cont n with
  | nil => simp [loadRest]
  | cons it its ih => simp [loadRest, ih]; omega

/- `loops_spec`, `fwd_loops_spec`, `vb_loops_spec`: the `let` chains of `serializeContainer`, `serializeForwardList`,
   `serializeVectorBool` after their first line, from any container; the `_spec` of each is its unfolding onto the lemma. -/

theorem loops_spec (L : Loader ι α) (c : List α) (its : List ι) :
    let r1 := loadExisting L c its
    let r2 := loadRest L r1.1 r1.2.1 r1.2.2
    resize L.dflt r2.2 r2.1 = specLoad L c its := by
  induction c generalizing its with
  | nil =>
    simp only [loadExisting, loadRest_spec, List.nil_append, Nat.zero_add, specLoad_nil]
    have := resize_length_self L.dflt (its.map fun it => (L.load it L.dflt).2)
    simpa using this
  | cons c cs ih =>
    cases its with
    | nil => simp [loadExisting, loadRest, resize_zero, specLoad]
    | cons it its =>
      have := ih its
      simp only [loadRest_spec] at this ⊢
      simp only [loadExisting, specLoad, List.cons_append]
      rw [Nat.add_right_comm, resize_succ_cons, this]

theorem serializeContainer_spec (L : Loader ι α) (prior : List α) (est : Nat) (items : List ι) :
    serializeContainer L prior est items = specLoad L (if est ≠ 0 then resize L.dflt est prior else prior) items := by
  unfold serializeContainer
  exact loops_spec L _ items

@[simp] theorem serializeContainer_length (L : Loader ι α) (prior : List α) (est : Nat) (items : List ι) :
    (serializeContainer L prior est items).length = items.length := by
  rw [serializeContainer_spec]; simp

theorem fwdLoop2_tail (L : Loader ι α) (x : α) (v : List α) (its : List ι) (n : Nat) :
    fwdLoop2 L (x :: v) [] its n = some ((x :: v).reverse ++ its.map (fun it => (L.load it L.dflt).2), n + its.length) := by
  induction its generalizing x v n with
  | nil => simp [fwdLoop2]
  | cons it its ih =>
    simp only [fwdLoop2]
    rw [ih]
    simp; omega

theorem fwd_loops_spec (L : Loader ι α) (v c : List α) (its : List ι) (n : Nat) (hne : v ≠ [] ∨ c ≠ []) :
    let r1 := fwdLoop1 L v c its n
    fwdLoop2 L r1.1 r1.2.1 r1.2.2.1 r1.2.2.2 = some (v.reverse ++ specLoad L c its ++ c.drop its.length, n + its.length) := by
  induction its generalizing v c n with
  | nil => cases c <;> simp [fwdLoop1, fwdLoop2, specLoad]
  | cons it its ih =>
    cases c with
    | nil =>
      cases v with
      | nil => simp at hne
      | cons x v =>
        simp only [fwdLoop1]
        rw [fwdLoop2_tail]
        simp [specLoad_nil]
    | cons c cs =>
      simp only [fwdLoop1]
      rw [ih _ cs (n + 1) (Or.inl (by simp))]
      simp [specLoad]; omega

theorem serializeForwardList_spec (L : Loader ι α) (prior : List α) (est : Nat) (items : List ι) :
    serializeForwardList L prior est items
      = some (specLoad L (if est ≠ 0 then resize L.dflt est prior else if prior.isEmpty then resize L.dflt 1 prior else prior) items) := by
  have hne : (if est ≠ 0 then resize L.dflt est prior else if prior.isEmpty then resize L.dflt 1 prior else prior) ≠ [] := by
    split
    · exact fun h => ‹est ≠ 0› (by simpa using congrArg List.length h)
    · split
      · exact fun h => by simpa using congrArg List.length h
      · exact fun h => ‹¬prior.isEmpty = true› (by rw [h]; rfl)
  rw [serializeForwardList, fwd_loops_spec L [] _ items 0 (.inr hne)]
  simp [resize]

/-- the values written when one `bool value` (initially `v`) is carried through the items -/
def runBool : Bool → List (Option Bool) → List Bool
  | _, [] => []
  | v, it :: its => it.getD v :: runBool (it.getD v) its

@[simp] theorem runBool_length (v : Bool) (its : List (Option Bool)) : (runBool v its).length = its.length := by
  induction its generalizing v with
  | nil => rfl
  | cons it its ih => simp [runBool, ih]

theorem vbLoop2_spec (v : Bool) (cont : List Bool) (its : List (Option Bool)) (n : Nat) :
    vbLoop2 v cont its n = (cont ++ runBool v its, n + its.length) := by
  induction its generalizing v cont n with
  | nil => simp [vbLoop2, runBool]
  | cons it its ih => simp [vbLoop2, runBool, ih]; omega

theorem vb_loops_spec (v : Bool) (c : List Bool) (its : List (Option Bool)) :
    let r1 := vbLoop1 v c its
    let r2 := vbLoop2 r1.2.2.2 r1.1 r1.2.1 r1.2.2.1
    resize false r2.2 r2.1 = runBool v its := by
  induction c generalizing v its with
  | nil =>
    simp only [vbLoop1, vbLoop2_spec, List.nil_append, Nat.zero_add]
    have := resize_length_self false (runBool v its)
    simpa using this
  | cons c cs ih =>
    cases its with
    | nil => simp [vbLoop1, vbLoop2, resize_zero, runBool]
    | cons it its =>
      have := ih (it.getD v) its
      simp only [vbLoop2_spec] at this ⊢
      simp only [vbLoop1, runBool, List.cons_append]
      rw [Nat.add_right_comm, resize_succ_cons, this]

theorem serializeVectorBool_spec (prior : List Bool) (est : Nat) (items : List (Option Bool)) :
    serializeVectorBool prior est items = runBool false items := by
  unfold serializeVectorBool
  exact vb_loops_spec false _ items

theorem bitsetLoop_congr (v : Bool) (c c' : List Bool) (its : List (Option Bool)) (h : c.length = c'.length) :
    bitsetLoop v c its = bitsetLoop v c' its := by
  induction c generalizing v c' its with
  | nil => cases c' with
    | nil => rfl
    | cons => simp at h
  | cons x cs ih =>
    cases c' with
    | nil => simp at h
    | cons y cs' =>
      cases its with
      | nil => rfl
      | cons it its =>
        simp only [bitsetLoop]
        rw [ih (it.getD v) cs' its (by simpa using h)]

theorem fixedLoop_spec (L : Loader ι α) (c : List α) (its : List ι) :
    fixedLoop L c its = ((specLoad L c its).take c.length ++ c.drop its.length, decide (c.length ≤ its.length), decide (its.length ≤ c.length)) := by
  induction c generalizing its with
  | nil => cases its <;> simp [fixedLoop, specLoad]
  | cons c cs ih =>
    cases its with
    | nil => simp [fixedLoop, specLoad]
    | cons it its => simp [fixedLoop, specLoad, ih]

theorem serializeFixedArray_spec (L : Loader ι α) (prior : List α) (items : List ι) :
    serializeFixedArray L prior items =
      if prior.length = items.length then .ok (specLoad L prior items) else .error .outOfRange := by
  rw [serializeFixedArray, fixedLoop_spec, ← Bool.not_and, ← Bool.decide_and, ← decide_eq_decide.mpr Nat.le_antisymm_iff]
  by_cases h : prior.length = items.length
  · rw [if_pos h, decide_eq_true h, if_neg (by simp), List.drop_of_length_le (Nat.le_of_eq h), List.append_nil,
      List.take_of_length_le (by rw [specLoad_length, h]; exact Nat.le_refl _)]
  · rw [if_neg h, decide_eq_false h]; rfl

theorem setInsert_mem [DecidableEq α] (u : Bool) (s : List α) (v x : α) : x ∈ setInsert u s v ↔ x ∈ s ∨ x = v := by
  unfold setInsert
  split
  · rename_i h
    constructor
    · intro hx; exact Or.inl hx
    · rintro (hx | rfl)
      · exact hx
      · exact h.2
  · simp

theorem foldl_setInsert_mem [DecidableEq α] (u : Bool) (f : ι → α) (its : List ι) (s : List α) (x : α) :
    x ∈ its.foldl (fun s it => setInsert u s (f it)) s ↔ x ∈ s ∨ ∃ it ∈ its, f it = x := by
  induction its generalizing s with
  | nil => simp
  | cons it its ih =>
    simp only [List.foldl_cons, ih, setInsert_mem, List.mem_cons, exists_eq_or_imp]
    constructor
    · rintro ((h | h) | h)
      · exact Or.inl h
      · exact Or.inr (Or.inl h.symm)
      · exact Or.inr (Or.inr h)
    · rintro (h | h | h)
      · exact Or.inl (Or.inl h)
      · exact Or.inl (Or.inr h.symm)
      · exact Or.inr h

def keys (m : MapOf α) : List Int := m.map Prod.fst

theorem keys_mapSet (k : Int) (v : α) (m : MapOf α) : keys (mapSet k v m) = keys m := by
  induction m with
  | nil => rfl
  | cons e m ih =>
    obtain ⟨k', v'⟩ := e
    unfold mapSet
    split
    · simp [keys]
    · simp only [keys, List.map_cons] at ih ⊢
      rw [ih]

theorem mapFind_eq_none_iff (k : Int) (m : MapOf α) : mapFind k m = none ↔ k ∉ keys m := by
  induction m with
  | nil => exact ⟨fun _ => nofun, fun _ => rfl⟩
  | cons e m ih =>
    rw [mapFind, keys, List.map_cons, List.mem_cons, not_or]
    split
    next hk => exact ⟨nofun, fun h => absurd hk.symm h.1⟩
    next hk => exact ih.trans ⟨fun h => ⟨fun hk' => hk hk'.symm, h⟩, (·.2)⟩

theorem keys_mapEmplace (k : Int) (d : α) (m : MapOf α) :
    keys (mapEmplace k d m) = if k ∈ keys m then keys m else keys m ++ [k] := by
  unfold mapEmplace
  split
  next h => rw [if_pos (Decidable.of_not_not (mt (mapFind_eq_none_iff k m).mpr (by rw [h]; nofun)))]
  next h =>
    rw [if_neg ((mapFind_eq_none_iff k m).mp h), keys, List.map_append]
    rfl

theorem keys_mapStep_onlyExist (L : Loader ι α) (m : MapOf α) (e : Option Int × ι) :
    keys (mapStep L .onlyExist m e) = keys m := by
  unfold mapStep
  cases e.1 with
  | none => rfl
  | some k =>
    simp only
    cases mapFind k m with
    | none => rfl
    | some old => simp [keys_mapSet]

theorem keys_mapStep_update (L : Loader ι α) (m : MapOf α) (e : Option Int × ι) :
    keys (mapStep L .update m e) = match e.1 with
      | none => keys m
      | some k => if k ∈ keys m then keys m else keys m ++ [k] := by
  unfold mapStep
  cases e.1 with
  | none => rfl
  | some k => simp [keys_mapSet, keys_mapEmplace]

theorem keys_foldl_onlyExist (L : Loader ι α) (doc : List (Option Int × ι)) (m : MapOf α) :
    keys (doc.foldl (mapStep L .onlyExist) m) = keys m := by
  induction doc generalizing m with
  | nil => rfl
  | cons e doc ih => simp [ih, keys_mapStep_onlyExist]

theorem keys_foldl_update_mono (L : Loader ι α) (doc : List (Option Int × ι)) (m : MapOf α) (k : Int) (h : k ∈ keys m) :
    k ∈ keys (doc.foldl (mapStep L .update) m) := by
  induction doc generalizing m with
  | nil => exact h
  | cons e doc ih =>
    simp only [List.foldl_cons]
    apply ih
    rw [keys_mapStep_update]
    cases e.1 with
    | none => exact h
    | some k' =>
      simp only
      split
      · exact h
      · simp [h]

theorem keys_foldl_update_doc (L : Loader ι α) (doc : List (Option Int × ι)) (m : MapOf α) (k : Int) (it : ι)
    (h : (some k, it) ∈ doc) : k ∈ keys (doc.foldl (mapStep L .update) m) := by
  induction doc generalizing m with
  | nil => simp at h
  | cons e doc ih =>
    simp only [List.foldl_cons]
    rcases List.mem_cons.mp h with rfl | h'
    · apply keys_foldl_update_mono
      rw [keys_mapStep_update]
      simp only
      split
      · assumption
      · simp
    · exact ih _ h'

end BSVerif.Cont
