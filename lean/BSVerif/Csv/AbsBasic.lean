/-
  What the metas of a reader denote in its buffer (`view`), the cell the scanner is in (`prependCur`), and
  basic facts about the abstract line scanner and the abstract reader's operations, shared by the
  refinement proofs of both readers.
-/
import BSVerif.Csv.Abstract
import BSVerif.Csv.Slice
import BSVerif.Csv.Result

namespace BSVerif.Csv.Abs
open BSVerif.Csv BSVerif.Csv.Reader

/-- what the metas denote in a buffer -/
def view (src : List Nat) (metas : List Meta) : List RawCell := metas.map fun m => ⟨slice src m.off m.size, m.esc⟩

/-- the cell being scanned already has the characters `cur` -/
def prependCur (cur : List Nat) (e : Bool) : List RawCell → List RawCell
  | c :: cs => ⟨cur ++ c.text, e || c.esc⟩ :: cs
  | [] => []

theorem view_length (src : List Nat) (metas : List Meta) : (view src metas).length = metas.length :=
  List.length_map _

theorem view_getElem? (src : List Nat) (metas : List Meta) (i : Nat) :
    (view src metas)[i]? = metas[i]?.map (fun m => ⟨slice src m.off m.size, m.esc⟩) :=
  List.getElem?_map

theorem view_map_cellValue (buf : List Nat) (ms : List Meta) : (view buf ms).map cellValue = ms.map (cellValueOf buf) :=
  List.map_map

theorem view_append_left {buf : List Nat} {ms : List Meta} (h : ∀ m ∈ ms, m.off + m.size ≤ buf.length) (app : List Nat) :
    view (buf ++ app) ms = view buf ms :=
  List.map_congr_left fun m hm => by rw [slice_append_left (h m hm)]

theorem prependCur_nil (cs : List RawCell) : prependCur [] false cs = cs := by
  cases cs <;> simp [prependCur]

theorem prependCur_push (cur : List Nat) (c : Nat) (hc : c ≠ 34) (e : Bool) (x : List RawCell × List Nat) :
    prependCur (cur ++ [c]) e x.1 = prependCur cur e (pushRaw c x).1 := by
  obtain ⟨cells, rest⟩ := x
  cases cells with
  | nil => rfl
  | cons a as =>
    have : (c == 34) = false := by simp [hc]
    simp [prependCur, pushRaw, this]

theorem prependCur_push_quote (cur : List Nat) (e : Bool) (x : List RawCell × List Nat) :
    prependCur (cur ++ [34]) true x.1 = prependCur cur e (pushRaw 34 x).1 := by
  obtain ⟨cells, rest⟩ := x
  cases cells with
  | nil => rfl
  | cons a as => simp [prependCur, pushRaw]

theorem prependCur_newCell (cur : List Nat) (e : Bool) (x : List RawCell × List Nat) :
    prependCur cur e (newCell x).1 = ⟨cur, e⟩ :: x.1 := by
  obtain ⟨cells, rest⟩ := x
  simp [prependCur, newCell, emptyCell]

theorem prependCur_single (cur : List Nat) (e : Bool) : prependCur cur e [emptyCell] = [⟨cur, e⟩] := by
  simp [prependCur, emptyCell]

@[simp] theorem pushRaw_snd (c : Nat) (x : List RawCell × List Nat) : (pushRaw c x).2 = x.2 := by
  obtain ⟨cells, rest⟩ := x
  cases cells <;> rfl

@[simp] theorem newCell_snd (x : List RawCell × List Nat) : (newCell x).2 = x.2 := rfl

theorem pushRaw_fst_ne_nil (c : Nat) {x : List RawCell × List Nat} (h : x.1 ≠ []) : (pushRaw c x).1 ≠ [] := by
  obtain ⟨_ | ⟨a, as⟩, rest⟩ := x
  · exact h
  · exact List.cons_ne_nil _ _

variable {sep : Nat}

theorem absLine_quote (r : List Nat) (q : Bool) : absLine sep (34 :: r) q = pushRaw 34 (absLine sep r (!q)) := by
  rw [absLine, if_pos rfl]

theorem absLine_sep {c : Nat} (hc : c ≠ 34) (h : c = sep) (r : List Nat) :
    absLine sep (c :: r) false = newCell (absLine sep r false) := by
  rw [absLine, if_neg hc, if_pos ⟨h, rfl⟩]

theorem absLine_crlf (h13 : sep ≠ 13) (r : List Nat) : absLine sep (13 :: 10 :: r) false = ([emptyCell], r) := by
  rw [absLine, if_neg (by decide), if_neg fun h => h13 h.1.symm, if_pos ⟨rfl, rfl, rfl⟩]; rfl

theorem absLine_lf (h10 : sep ≠ 10) (r : List Nat) : absLine sep (10 :: r) false = ([emptyCell], r) := by
  rw [absLine, if_neg (by decide), if_neg fun h => h10 h.1.symm, if_neg fun h => (by cases h.1), if_pos ⟨rfl, rfl⟩]

theorem absLine_other {c : Nat} {q : Bool} {r : List Nat} (hc : c ≠ 34) (h1 : ¬ (c = sep ∧ q = false))
    (h2 : ¬ (c = 13 ∧ q = false ∧ r.head? = some 10)) (h3 : ¬ (c = 10 ∧ q = false)) :
    absLine sep (c :: r) q = pushRaw c (absLine sep r q) := by
  rw [absLine, if_neg hc, if_neg h1, if_neg h2, if_neg h3]

theorem absLine_nil (q : Bool) : absLine sep [] q = ([emptyCell], []) := rfl

theorem absLine_cells_ne (sep : Nat) (l : List Nat) (q : Bool) : (absLine sep l q).1 ≠ [] := by
  fun_induction absLine sep l q with
  -- a quote and any other character (the 2nd and the last case of `absLine`) push onto the recursive result
  | case2 _ _ ih | case6 _ _ _ _ _ _ _ ih => exact pushRaw_fst_ne_nil _ ih
  -- the empty text, a separator, CR LF and LF give `[emptyCell]` or `newCell _`
  | case1 | case3 | case4 | case5 => exact List.cons_ne_nil _ _

theorem absLine_rest_le (l : List Nat) (q : Bool) : (absLine sep l q).2.length ≤ l.length - 1 := by
  fun_induction absLine sep l q <;>
    simp only [pushRaw_snd, newCell_snd, List.length_cons, List.length_nil, List.length_tail] <;> omega

theorem absLine_rest_lt (l : List Nat) (q : Bool) (h : l ≠ []) : (absLine sep l q).2.length < l.length := by
  have := absLine_rest_le (sep := sep) l q
  have := List.length_pos_iff.mpr h
  omega

namespace AbsReader
variable {a a' : AbsReader}

theorem readValueIdx_state {v : List Nat} (h : a.readValueIdx = .ok (v, a')) : a' = { a with valueIndex := a.valueIndex + 1 } := by
  unfold readValueIdx at h
  split at h
  · rename_i c _
    cases hc : cellValue c <;> rw [hc] at h <;> cases h
    rfl
  · cases h

theorem readValueKey_state {key : List Nat} {v : Option (List Nat)} (h : a.readValueKey key = .ok (v, a')) :
    ∃ vi, a' = { a with valueIndex := vi } := by
  unfold readValueKey at h
  split at h
  · cases h; exact ⟨_, rfl⟩
  · dsimp only at h
    split at h
    · cases h; exact ⟨_, rfl⟩
    · split at h
      · cases h
      · rename_i c _
        cases hc : cellValue c <;> rw [hc] at h <;> cases h
        exact ⟨_, rfl⟩

theorem runScript_state {script : List Req} {cs : List Cell} (h : a.runScript script = .ok (cs, a')) :
    ∃ vi, a' = { a with valueIndex := vi } := by
  induction script generalizing a cs with
  | nil => cases h; exact ⟨_, rfl⟩
  | cons q qs ih =>
    -- `.key n :: qs` unfolds to `.lit (keyOf a.headers n) :: qs`
    have lit : ∀ k, a.runScript (.lit k :: qs) = .ok (cs, a') → ∃ vi, a' = { a with valueIndex := vi } := by
      intro k h
      simp only [runScript, bind_eq_ok] at h
      obtain ⟨⟨v, a1⟩, h1, ⟨cs1, a2⟩, h2, h3⟩ := h
      cases h3
      obtain ⟨vi, rfl⟩ := ih h2
      obtain ⟨vj, rfl⟩ := readValueKey_state h1
      exact ⟨vi, rfl⟩
    cases q with
    | idx =>
      simp only [runScript, bind_eq_ok] at h
      obtain ⟨⟨v, a1⟩, h1, ⟨cs1, a2⟩, h2, h3⟩ := h
      cases h3
      obtain ⟨vi, rfl⟩ := ih h2
      exact ⟨vi, by rw [readValueIdx_state h1]⟩
    | key n => exact lit _ h
    | lit k => exact lit k h

theorem readHeaders_state {n : Nat} {hs : List (List Nat)} (h : a.readHeaders n = .ok (hs, a')) :
    ∃ vi, a' = { a with valueIndex := vi } := by
  induction n generalizing a hs with
  | zero => cases h; exact ⟨_, rfl⟩
  | succ n ih =>
    simp only [readHeaders, bind_eq_ok] at h
    obtain ⟨⟨v, a1⟩, h1, ⟨vs, a2⟩, h2, h3⟩ := h
    cases h3
    obtain ⟨vi, rfl⟩ := ih h2
    exact ⟨vi, by rw [readValueIdx_state h1]⟩

theorem parseNextLine_sep (a : AbsReader) : a.parseNextLine.2.sep = a.sep := by
  unfold parseNextLine; split <;> rfl

theorem parseNextRow_sep {b : Bool} (h : a.parseNextRow = .ok (b, a')) : a'.sep = a.sep := by
  rw [← a.parseNextLine_sep]
  unfold parseNextRow at h
  generalize a.parseNextLine = r at h
  obtain ⟨more, a1⟩ := r
  cases more with
  | false => cases h; rfl
  | true =>
    dsimp only at h
    rw [if_pos rfl] at h
    split at h
    · cases h
    · split at h <;> cases h
      rfl

theorem create_sep {txt : List Nat} {wh : Bool} {sep : Nat} (h : create txt wh sep = .ok a) : a.sep = sep := by
  unfold create at h
  dsimp only at h
  split at h
  · have h1 := parseNextLine_sep { rem := txt, withHeader := wh, sep := sep }
    generalize parseNextLine { rem := txt, withHeader := wh, sep := sep } = r at h h1
    obtain ⟨more, a1⟩ := r
    dsimp only at h
    split at h
    · simp only [bind_eq_ok] at h
      obtain ⟨⟨hs, a2⟩, h2, h3⟩ := h
      cases h3
      obtain ⟨vi, rfl⟩ := readHeaders_state h2
      exact h1
    · cases h
  · cases h; rfl

end AbsReader

end BSVerif.Csv.Abs
