/-
  The abstract reader reads every RFC 4180 rendering of a table as that table: the reader's unescaping
  undoes the Spec's escaping, line-level lemmas (`absLine` on a rendered record) and the step property
  `LineStep` used by the session proofs.
-/
import BSVerif.Csv.AbsBasic
import BSVerif.Csv.SpecLemmas

namespace BSVerif.Csv.Reader
open BSVerif.Csv.Spec

theorem unescLoop_escape (f : List Nat) (dq : Nat) (h : dq % 2 = 0) : unescLoop (escape f) dq = f := by
  induction f generalizing dq with
  | nil => rfl
  | cons c f ih =>
    by_cases hc : c = 34
    · subst hc
      have h1 : ¬ ((dq + 1) % 2 = 0) := by omega
      have h2 : (dq + 1 + 1) % 2 = 0 := by omega
      simp [escape, unescLoop, h1, h2, ih (dq + 1 + 1) h2]
    · simp [escape, hc, unescLoop, ih dq h]

theorem unescapeCopy_quoted (f : List Nat) : unescapeCopy (34 :: (escape f ++ [34])) = .ok f := by
  have hlast : (34 :: (escape f ++ [34])).getLast? = some 34 := by
    rw [← List.cons_append, List.getLast?_append]; rfl
  simp [unescapeCopy, hlast, unescLoop_escape f 0 rfl]

end BSVerif.Csv.Reader

namespace BSVerif.Csv.Abs
open BSVerif.Csv BSVerif.Csv.Reader BSVerif.Csv.Spec

variable {sep : Nat}

/-- prepend a whole string to the cell being scanned -/
def pushAll (s : List Nat) (x : List RawCell × List Nat) : List RawCell × List Nat := s.foldr pushRaw x

@[simp] theorem pushAll_nil (x : List RawCell × List Nat) : pushAll [] x = x := rfl
@[simp] theorem pushAll_cons (c : Nat) (s : List Nat) (x : List RawCell × List Nat) :
    pushAll (c :: s) x = pushRaw c (pushAll s x) := rfl
theorem pushAll_append (s t : List Nat) (x : List RawCell × List Nat) : pushAll (s ++ t) x = pushAll s (pushAll t x) := by
  simp [pushAll, List.foldr_append]

def fieldCell (s : List Nat) : RawCell := ⟨s, s.contains 34⟩

theorem pushAll_empty (s : List Nat) (cs : List RawCell) (rest : List Nat) :
    pushAll s (emptyCell :: cs, rest) = (fieldCell s :: cs, rest) := by
  induction s with
  | nil => simp [fieldCell, emptyCell]
  | cons c s ih =>
    rw [pushAll_cons, ih]
    have : (c == 34) = ((34 : Nat) == c) := BEq.comm
    simp only [pushRaw, fieldCell, List.contains_cons, this]

theorem contains_of_all_isText (f : List Nat) (h : f.all (isText sep) = true) : f.contains 34 = false := by
  induction f with
  | nil => rfl
  | cons c f ih =>
    simp only [List.all_cons, Bool.and_eq_true] at h
    have hc := (isText_iff.mp h.1).1
    have : ((34 : Nat) == c) = false := by simp; exact fun h' => hc h'.symm
    rw [List.contains_cons, ih h.2, this]; rfl

theorem cellValue_fieldR {f : Field} {s : List Nat} (h : FieldR sep f s) : cellValue (fieldCell s) = .ok f := by
  cases h with
  | plain hf =>
    have hcn := contains_of_all_isText f hf
    show (if (f.contains 34) = true then _ else _) = _
    rw [hcn]; rfl
  | quoted => simp [cellValue, fieldCell, unescapeCopy_quoted]

theorem absLine_plain (f : Field) (hf : f.all (isText sep) = true) (k : List Nat) :
    absLine sep (f ++ k) false = pushAll f (absLine sep k false) := by
  induction f with
  | nil => rfl
  | cons c f ih =>
    simp only [List.all_cons, Bool.and_eq_true] at hf
    obtain ⟨c1, c2, c3, c4⟩ := isText_iff.mp hf.1
    rw [List.cons_append, absLine_other c1 (fun h => c2 h.1) (fun h => c3 h.1) (fun h => c4 h.1), ih hf.2, pushAll_cons]

theorem absLine_quotedBody (f : Field) (k : List Nat) :
    absLine sep (escape f ++ 34 :: k) true = pushAll (escape f ++ [34]) (absLine sep k false) := by
  induction f with
  | nil => simp [escape, absLine_quote]
  | cons c f ih =>
    by_cases hc : c = 34
    · subst hc
      have e1 : escape (34 :: f) = 34 :: 34 :: escape f := by simp [escape]
      simp only [e1, List.cons_append, absLine_quote, Bool.not_true, Bool.not_false, ih, pushAll_cons]
    · have : absLine sep (c :: (escape f ++ 34 :: k)) true = pushRaw c (absLine sep (escape f ++ 34 :: k) true) :=
        absLine_other hc (fun h => by cases h.2) (fun h => by cases h.2.1) (fun h => by cases h.2)
      simp only [escape, hc, if_false, List.cons_append, this, ih, pushAll_cons]

theorem absLine_field {f : Field} {s : List Nat} (h : FieldR sep f s) (k : List Nat) :
    absLine sep (s ++ k) false = pushAll s (absLine sep k false) := by
  cases h with
  | plain hf => exact absLine_plain f hf k
  | quoted =>
    have : 34 :: (escape f ++ [34]) ++ k = 34 :: (escape f ++ 34 :: k) := by simp
    rw [this, absLine_quote, Bool.not_false, absLine_quotedBody]
    rfl

/-- the text after the line break that `k` starts with -/
def eolRest : List Nat → List Nat
  | 10 :: t => t
  | 13 :: 10 :: t => t
  | l => l

theorem absLine_eol (hs : SepOk sep) {k : List Nat} (h : LineEnd k) : absLine sep k false = ([emptyCell], eolRest k) := by
  cases h with
  | nil => rfl
  | lf r => rw [absLine_lf hs.2.2]; rfl
  | crlf r => rw [absLine_crlf hs.2.1]; rfl

def Decodes (cells : List RawCell) (row : List Field) : Prop := cells.map cellValue = row.map .ok

theorem Decodes.cons {c : RawCell} {f : Field} (hc : cellValue c = .ok f) {cells : List RawCell} {row : List Field}
    (h : Decodes cells row) : Decodes (c :: cells) (f :: row) := by
  unfold Decodes at h ⊢
  rw [List.map_cons, List.map_cons, hc, h]

theorem Decodes.length {cells : List RawCell} {row : List Field} (h : Decodes cells row) : cells.length = row.length := by
  have := congrArg List.length h; simpa using this

theorem Decodes.getElem? {cells : List RawCell} {row : List Field} (h : Decodes cells row) (i : Nat) :
    cells[i]?.map cellValue = row[i]?.map .ok := by
  simpa only [List.getElem?_map] using congrArg (·[i]?) h

theorem absLine_record (hs : SepOk sep) {r : Record} {s : List Nat} (h : RecordR sep r s) {k : List Nat} (hk : LineEnd k) :
    ∃ cells, absLine sep (s ++ k) false = (cells, eolRest k) ∧ Decodes cells r := by
  induction h with
  | @one f s hf =>
    refine ⟨[fieldCell s], ?_, .cons (cellValue_fieldR hf) rfl⟩
    rw [absLine_field hf, absLine_eol hs hk, pushAll_empty]
  | @cons f s fs t hf _ _ ih =>
    obtain ⟨cells, h1, h2⟩ := ih
    refine ⟨fieldCell s :: cells, ?_, .cons (cellValue_fieldR hf) h2⟩
    have s34 : sep ≠ 34 := hs.1
    rw [List.append_assoc, List.cons_append, absLine_field hf, absLine_sep s34 rfl, h1]
    simp [newCell, pushAll_empty]

/-- the step property of a reading discipline `P` (table ↦ texts): the first line of the text holds the
    first record, and the rest of the text is related to the rest of the table. It is all the session
    proofs use of `Renders`. -/
structure LineStep (sep : Nat) (P : Table → List Nat → Prop) : Prop where
  nil : ∀ txt, P [] txt → txt = []
  cons : ∀ r rs txt, P (r :: rs) txt →
    txt ≠ [] ∧ ∃ cells rest, absLine sep txt false = (cells, rest) ∧ Decodes cells r ∧ P rs rest

theorem renders_lineStep (hs : SepOk sep) : LineStep sep (Renders sep) where
  nil := by intro txt h; cases h; rfl
  cons := by
    intro r rs txt h
    cases h with
    | last hr hne =>
      obtain ⟨cells, h1, h2⟩ := absLine_record hs hr LineEnd.nil
      rw [List.append_nil] at h1
      exact ⟨hne, cells, [], h1, h2, Renders.nil⟩
    | @cons _ s e _ t hr he hrs =>
      have hk : LineEnd (e ++ t) := by cases he <;> constructor
      obtain ⟨cells, h1, h2⟩ := absLine_record hs hr hk
      have hrest : eolRest (e ++ t) = t := by cases he <;> rfl
      rw [hrest] at h1
      refine ⟨by cases he <;> simp, cells, t, h1, h2, hrs⟩

end BSVerif.Csv.Abs
