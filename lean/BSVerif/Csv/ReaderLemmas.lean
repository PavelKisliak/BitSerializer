/-
  The string-reader model equals the abstract reader on every text, for every separator with `SepOk`.
-/
import BSVerif.Csv.ScanLemmas

namespace BSVerif.Csv.Reader
open BSVerif.Csv BSVerif.Csv.Abs BSVerif.Csv.Spec

def MemReader.toAbs (m : MemReader) : AbsReader :=
  { rem := m.src.drop m.curPos, withHeader := m.withHeader, sep := m.sep, headers := m.headers,
    cells := view m.src m.metas, lineNumber := m.lineNumber, rowIndex := m.rowIndex,
    valueIndex := m.valueIndex, prevValuesCount := m.prevValuesCount }

/-- transport the state component of a result -/
def mapSt {α σ τ : Type} (f : σ → τ) : Except Err (α × σ) → Except Err (α × τ)
  | .ok (a, s) => .ok (a, f s)
  | .error e => .error e

@[simp] theorem mapSt_ok {α σ τ : Type} (f : σ → τ) (a : α) (s : σ) : mapSt f (.ok (a, s)) = .ok (a, f s) := rfl
@[simp] theorem mapSt_error {α σ τ : Type} (f : σ → τ) (e : Err) : mapSt f (.error e : Except Err (α × σ)) = .error e := rfl

theorem mapSt_bind {α β σ τ : Type} (f : σ → τ) (r : Except Err (α × σ)) {k : α × σ → Except Err (β × σ)}
    {k' : α × τ → Except Err (β × τ)} (hk : ∀ x s, mapSt f (k (x, s)) = k' (x, f s)) :
    mapSt f (r >>= k) = mapSt f r >>= k' := by
  cases r with
  | error e => rfl
  | ok p => exact hk p.1 p.2

namespace MemReader

theorem isEnd_toAbs (m : MemReader) : m.toAbs.isEnd = m.isEnd := by
  simp only [toAbs, AbsReader.isEnd, isEnd]
  rw [Bool.eq_iff_iff]
  simp [List.isEmpty_iff, List.drop_eq_nil_iff]

theorem parseNextLine_toAbs (m : MemReader) (hs : SepOk m.sep) :
    m.toAbs.parseNextLine = (m.parseNextLine.1, m.parseNextLine.2.toAbs) := by
  unfold parseNextLine AbsReader.parseNextLine
  by_cases hend : m.curPos ≥ m.src.length
  · have : (m.toAbs.rem).isEmpty = true := by simp [toAbs, List.isEmpty_iff, List.drop_eq_nil_iff, hend]
    simp [hend, this]
  · have hne : ¬ (m.toAbs.rem).isEmpty = true := by
      simp [toAbs, List.isEmpty_iff, List.drop_eq_nil_iff]; omega
    rw [if_neg hend, if_neg hne]
    have hsrc : m.src.take m.curPos ++ [] ++ m.src.drop m.curPos = m.src := by simp
    have hpl : (m.src.take m.curPos).length = m.curPos := by simp; omega
    cases hsc : scanLine m.sep m.src.length (m.src.drop m.curPos) m.curPos m.curPos 0 none with
    | mk ms np =>
      obtain ⟨k1, k2, k3, _⟩ := scanLine_abs m.sep hs (m.src.drop m.curPos) (m.src.take m.curPos) [] 0 none ms np
        (fun p hp => by cases hp) (fun h => by cases h) (by rw [hsrc, List.length_nil, Nat.add_zero, hpl]; exact hsc)
      rw [List.length_nil, Nat.add_zero, hpl] at k2 k3
      rw [List.drop_drop, Nat.add_sub_cancel' k2] at k3
      simp only [hsrc, Nat.zero_mod, show decide ((0:Nat) = 1) = false by rfl, show ((0:Nat) != 0) = false by rfl,
        prependCur_nil] at k1 k3
      simp only [toAbs]
      rw [← k1, ← k3]
      simp [view]

theorem cellValue_toAbs (src : List Nat) (mm : Meta) :
    Abs.cellValue ⟨slice src mm.off mm.size, mm.esc⟩ = cellValueOf src mm := rfl

theorem readValueIdx_toAbs (m : MemReader) :
    m.toAbs.readValueIdx = mapSt toAbs m.readValueIdx := by
  unfold readValueIdx AbsReader.readValueIdx
  simp only [toAbs, view_getElem?]
  cases m.metas[m.valueIndex]? with
  | none => rfl
  | some mm =>
    simp only [Option.map_some, cellValue_toAbs, cellValue]
    cases cellValueOf m.src mm <;> rfl

theorem readValueKey_toAbs (m : MemReader) (key : List Nat) :
    m.toAbs.readValueKey key = mapSt toAbs (m.readValueKey key) := by
  unfold readValueKey AbsReader.readValueKey
  cases hw : m.withHeader with
  | false => simp [toAbs, hw]
  | true =>
    simp only [toAbs, hw, Bool.not_true, Bool.false_eq_true, if_false]
    generalize resolveKey m.headers m.valueIndex key = res
    obtain ⟨vi, found⟩ := res
    cases found with
    | false => rfl
    | true =>
      simp only [Bool.not_true, Bool.false_eq_true, if_false, view_getElem?]
      cases m.metas[vi]? with
      | none => rfl
      | some mm =>
        simp only [Option.map_some, cellValue_toAbs, cellValue]
        cases cellValueOf m.src mm <;> rfl

theorem parseNextRow_toAbs (m : MemReader) (hs : SepOk m.sep) :
    m.toAbs.parseNextRow = mapSt toAbs m.parseNextRow := by
  unfold parseNextRow AbsReader.parseNextRow
  rw [parseNextLine_toAbs m hs]
  generalize m.parseNextLine = res
  obtain ⟨more, m1⟩ := res
  cases more with
  | false => rfl
  | true =>
    simp only [if_true, toAbs, view_length, apply_ite (mapSt toAbs)]
    rfl

theorem readHeaders_toAbs (m : MemReader) (n : Nat) :
    m.toAbs.readHeaders n = mapSt toAbs (m.readHeaders n) := by
  induction n generalizing m with
  | zero => rfl
  | succ n ih =>
    simp only [readHeaders, AbsReader.readHeaders, readValueIdx_toAbs]
    exact (mapSt_bind _ _ fun v m1 => by rw [ih m1]; exact mapSt_bind _ _ fun _ _ => rfl).symm

theorem runScript_toAbs (m : MemReader) (script : List Req) :
    m.toAbs.runScript script = mapSt toAbs (m.runScript script) := by
  induction script generalizing m with
  | nil => rfl
  | cons q qs ih =>
    have lit : ∀ k, m.toAbs.runScript (.lit k :: qs) = mapSt toAbs (m.runScript (.lit k :: qs)) := fun k => by
      simp only [runScript, AbsReader.runScript, readValueKey_toAbs]
      exact (mapSt_bind _ _ fun v m1 => by rw [ih m1]; exact mapSt_bind _ _ fun _ _ => rfl).symm
    cases q with
    | idx =>
      simp only [runScript, AbsReader.runScript, readValueIdx_toAbs]
      exact (mapSt_bind _ _ fun v m1 => by rw [ih m1]; exact mapSt_bind _ _ fun _ _ => rfl).symm
    | key n => exact lit _
    | lit k => exact lit k

theorem loop_toAbs (script : List Req) (fuel : Nat) (m : MemReader) (hs : SepOk m.sep) :
    m.toAbs.loop script fuel = m.loop script fuel := by
  induction fuel generalizing m with
  | zero => rfl
  | succ fuel ih =>
    simp only [loop, AbsReader.loop, isEnd_toAbs]
    split
    · rfl
    · have hrow := parseNextRow_toAbs m hs
      rw [hrow]
      cases h : m.parseNextRow with
      | error e => rfl
      | ok r =>
        obtain ⟨b, m1⟩ := r
        rw [h] at hrow
        -- `m.toAbs.sep` is `m.sep` by definition of `toAbs`: facts about the abstract reader's `sep` are facts about `m`'s
        have hs1 : SepOk m1.sep := by rw [show m1.sep = m.sep from AbsReader.parseNextRow_sep hrow]; exact hs
        cases b with
        | false => rfl
        | true =>
          have hscr := runScript_toAbs m1 script
          simp only [mapSt_ok, hscr]
          cases h2 : m1.runScript script with
          | error e => rfl
          | ok r2 =>
            obtain ⟨cs, m2⟩ := r2
            rw [h2] at hscr
            obtain ⟨vi, hv⟩ := AbsReader.runScript_state hscr
            simp only [mapSt_ok]
            rw [ih m2 (by rw [show m2.sep = m1.sep from congrArg AbsReader.sep hv]; exact hs1)]

theorem create_toAbs (txt : List Nat) (wh : Bool) (sep : Nat) (hs : SepOk sep) :
    AbsReader.create txt wh sep = (create txt wh sep).map toAbs := by
  unfold create AbsReader.create
  cases wh with
  | false => rfl
  | true =>
    simp only [if_true]
    rw [show ({ rem := txt, withHeader := true, sep := sep } : AbsReader)
          = ({ src := txt, withHeader := true, sep := sep } : MemReader).toAbs from rfl,
      parseNextLine_toAbs _ hs]
    generalize ({ src := txt, withHeader := true, sep := sep } : MemReader).parseNextLine = res
    obtain ⟨more, m1⟩ := res
    cases more with
    | false => rfl
    | true =>
      simp only [if_true]
      rw [show m1.toAbs.cells.length = m1.metas.length from view_length _ _, readHeaders_toAbs]
      cases m1.readHeaders m1.metas.length with
      | error e => rfl
      | ok r => rfl

end MemReader

theorem memSession_eq_abs (sep : Nat) (hs : SepOk sep) (wh : Bool) (script : List Req) (txt : List Nat) :
    memSession sep wh script txt = absSession sep wh script txt := by
  unfold memSession absSession
  have h1 := MemReader.create_toAbs txt wh sep hs
  rw [h1]
  cases h : MemReader.create txt wh sep with
  | error e => rfl
  | ok m =>
    rw [h] at h1
    exact (MemReader.loop_toAbs script _ m (by rw [show m.sep = sep from AbsReader.create_sep h1]; exact hs)).symm

end BSVerif.Csv.Reader
