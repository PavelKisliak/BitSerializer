/-
  `Except Err` as the result type of the reader and writer operations: the equations of `>>=`.
-/
import BSVerif.Csv.Common

namespace BSVerif.Csv

variable {α β : Type}

@[simp] theorem ok_bind (a : α) (f : α → Except Err β) : (Except.ok a >>= f) = f a := rfl

@[simp] theorem error_bind (e : Err) (f : α → Except Err β) : (Except.error e >>= f) = .error e := rfl

@[simp] theorem pure_ok (a : α) : (pure a : Except Err α) = .ok a := rfl

theorem bind_eq_ok {r : Except Err α} {k : α → Except Err β} {y : β} :
    (r >>= k) = .ok y ↔ ∃ x, r = .ok x ∧ k x = .ok y := by
  cases r <;> simp

end BSVerif.Csv
