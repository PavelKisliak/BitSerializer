/-
  The line scanner of the string reader refines the abstract line scanner. The stream reader's
  scanner computes the same function of the logical text (`StreamLemmas`), so this is the one
  place where the case analysis of `ParseNextLine` is matched against `absLine`.
-/
import BSVerif.Csv.AbsBasic
import BSVerif.Csv.Spec

namespace BSVerif.Csv.Reader
open BSVerif.Csv BSVerif.Csv.Abs BSVerif.Csv.Spec

section steps
variable {sep total : Nat} {r : List Nat} {pos start dq : Nat} {cr : Option Nat}

theorem scanLine_quote : scanLine sep total (34 :: r) pos start dq cr = scanLine sep total r (pos + 1) start (dq + 1) cr := by
  rw [scanLine, if_pos rfl]

theorem scanLine_sep {c : Nat} (hc : c ≠ 34) (h : c = sep) (hq : dq % 2 = 0) :
    scanLine sep total (c :: r) pos start dq cr
      = consMeta ⟨start, pos - start, dq != 0⟩ (scanLine sep total r (pos + 1) (pos + 1) 0 none) := by
  rw [scanLine, if_neg hc, if_pos ⟨h, hq⟩]

theorem scanLine_cr (h13 : sep ≠ 13) :
    scanLine sep total (13 :: r) pos start dq cr = scanLine sep total r (pos + 1) start dq (some pos) := by
  rw [scanLine, if_neg (by decide), if_neg fun h => h13 h.1.symm, if_pos rfl]

theorem scanLine_lf (h10 : sep ≠ 10) (hq : dq % 2 = 0) :
    scanLine sep total (10 :: r) pos start dq cr
      = ([⟨start, (if cr.getD pos = decWrap pos then cr.getD pos else pos) - start, dq != 0⟩], pos + 1) := by
  rw [scanLine, if_neg (by decide), if_neg fun h => h10 h.1.symm, if_neg (by decide), if_pos ⟨rfl, hq⟩]

theorem scanLine_other {c : Nat} (hc : c ≠ 34) (h1 : ¬ (c = sep ∧ dq % 2 = 0)) (h2 : c ≠ 13) (h3 : ¬ (c = 10 ∧ dq % 2 = 0)) :
    scanLine sep total (c :: r) pos start dq cr = scanLine sep total r (pos + 1) start dq cr := by
  rw [scanLine, if_neg hc, if_neg h1, if_neg h2, if_neg h3]

end steps

-- `decide (dq % 2 = 1)` is the flag `q` of `absLine` for the scanner's count `dq` of double quotes
theorem parity_succ (dq : Nat) : decide ((dq + 1) % 2 = 1) = !decide (dq % 2 = 1) := by
  rcases Nat.mod_two_eq_zero_or_one dq with h | h <;> simp [Nat.add_mod, h]

theorem parity_even {dq : Nat} (h : dq % 2 = 0) : decide (dq % 2 = 1) = false := by simp [h]

theorem parity_false {dq : Nat} (h : decide (dq % 2 = 1) = false) : dq % 2 = 0 := by
  simp at h; omega

/-- the test `precedingCrPos == mCurrentPos - 1` of the LF branch, for a CR position before `pos` -/
theorem crBefore_iff {cr : Option Nat} {pos : Nat} (hcr : ∀ p, cr = some p → p < pos) :
    cr.getD pos = decWrap pos ↔ cr = some (pos - 1) ∧ 1 ≤ pos := by
  unfold decWrap
  cases cr with
  | none => simp only [Option.getD_none]; split <;> simp <;> omega
  | some p =>
    have := hcr p rfl
    simp only [Option.getD_some, Option.some.injEq, if_neg (show ¬ pos = 0 by omega)]
    omega

/-- **line-level refinement (string reader)**: scanning from a state in which `cur` is the part of the
    current value already passed yields metas that denote the abstract cells, and stops where the
    abstract line stops. `pre` is the text before the current value (so `start = pre.length`), `l` the text
    still to be scanned. The scanner remembers a CR it has passed in `cr`, whereas `absLine` looks ahead
    from the CR: so the proof steps over CR LF in one go, and the second hypothesis excludes the one state
    in which `absLine` cannot be started, a remembered CR directly before an LF outside quotes. -/
theorem scanLine_abs (sep : Nat) (hs : SepOk sep) (l : List Nat) :
    ∀ (pre cur : List Nat) (dq : Nat) (cr : Option Nat) (ms : List Meta) (np : Nat),
      (∀ p, cr = some p → p < pre.length + cur.length) →
      (cr = some (pre.length + cur.length - 1) → 1 ≤ pre.length + cur.length → ¬ (l.head? = some 10 ∧ dq % 2 = 0)) →
      scanLine sep (pre ++ cur ++ l).length l (pre.length + cur.length) pre.length dq cr = (ms, np) →
      view (pre ++ cur ++ l) ms = prependCur cur (dq != 0) (absLine sep l (decide (dq % 2 = 1))).1 ∧
      pre.length + cur.length ≤ np ∧
      l.drop (np - (pre.length + cur.length)) = (absLine sep l (decide (dq % 2 = 1))).2 ∧
      (l ≠ [] → pre.length + cur.length < np) := by
  obtain ⟨s34, s13, s10⟩ := hs
  induction l with
  | nil =>
    intro pre cur dq cr ms np _ _ h
    obtain ⟨rfl, rfl⟩ := Prod.mk.inj h
    simp [absLine, view, prependCur, emptyCell, slice]
  | cons c r ih =>
    intro pre cur dq cr ms np hcr hH h
    have hassoc : pre ++ (cur ++ [c]) ++ r = pre ++ cur ++ (c :: r) := by simp
    have hlen : pre.length + (cur ++ [c]).length = pre.length + cur.length + 1 := by
      simp only [List.length_append, List.length_singleton]; omega
    have hsub : pre.length + cur.length - pre.length = cur.length := by omega
    -- the generic "push one character" step
    have push : ∀ (dq' : Nat) (cr' : Option Nat),
        (∀ p, cr' = some p → p < pre.length + cur.length + 1) →
        (cr' = some (pre.length + cur.length) → ¬ (r.head? = some 10 ∧ dq' % 2 = 0)) →
        scanLine sep (pre ++ cur ++ c :: r).length r (pre.length + cur.length + 1) pre.length dq' cr' = (ms, np) →
        view (pre ++ cur ++ c :: r) ms = prependCur (cur ++ [c]) (dq' != 0) (absLine sep r (decide (dq' % 2 = 1))).1 ∧
        pre.length + cur.length + 1 ≤ np ∧
        (c :: r).drop (np - (pre.length + cur.length)) = (absLine sep r (decide (dq' % 2 = 1))).2 := by
      intro dq' cr' h1 h2 h3
      have := ih pre (cur ++ [c]) dq' cr' ms np (by rw [hlen]; exact h1) (by rw [hlen]; intro h _; exact h2 (by simpa using h))
        (by rw [hassoc, hlen]; exact h3)
      rw [hassoc, hlen] at this
      obtain ⟨a1, a2, a3, _⟩ := this
      exact ⟨a1, a2, by rw [drop_succ_of_le c r a2]; exact a3⟩
    by_cases h34 : c = 34
    · -- a double quote
      subst h34
      rw [scanLine_quote] at h
      obtain ⟨a1, a2, a3⟩ := push (dq + 1) cr (fun p hp => by have := hcr p hp; omega)
        (fun h => by have := hcr _ h; omega) h
      rw [absLine_quote, pushRaw_snd]
      rw [parity_succ] at a1 a3
      refine ⟨?_, by omega, a3, fun _ => by omega⟩
      rw [a1, show ((dq + 1) != 0) = true by simp]
      exact prependCur_push_quote cur (dq != 0) _
    · by_cases hsep : c = sep ∧ dq % 2 = 0
      · -- a separator outside quotes
        obtain ⟨hc, hq⟩ := hsep
        rw [scanLine_sep h34 hc hq] at h
        obtain ⟨rfl, rfl⟩ := Prod.mk.inj h
        have := ih (pre ++ cur ++ [c]) [] 0 none _ _ (fun p hp => by cases hp) (fun h => by cases h) rfl
        have hassoc2 : pre ++ cur ++ [c] ++ [] ++ r = pre ++ cur ++ (c :: r) := by simp
        have hlen3 : (pre ++ cur ++ [c]).length = pre.length + cur.length + 1 := by
          simp only [List.length_append, List.length_singleton]
        rw [hassoc2, List.length_nil, Nat.add_zero, hlen3] at this
        obtain ⟨a1, a2, a3, _⟩ := this
        rw [parity_even hq, absLine_sep h34 hc, newCell_snd]
        simp only [Nat.zero_mod, show decide ((0:Nat) = 1) = false by rfl] at a1 a3
        refine ⟨?_, by omega, by rw [drop_succ_of_le c r a2]; exact a3, fun _ => by omega⟩
        simp only [view, List.map_cons] at a1 ⊢
        rw [a1, prependCur_newCell, hsub, slice_mid]
        cases h : (absLine sep r false).1 <;> simp [prependCur]
      · by_cases h13 : c = 13
        · subst h13
          by_cases hcrlf : dq % 2 = 0 ∧ r.head? = some 10
          · -- CR LF outside quotes: the line ends, the value ends before the CR
            obtain ⟨hq, hr⟩ := hcrlf
            cases r with
            | nil => simp at hr
            | cons d r' =>
              simp only [List.head?_cons, Option.some.injEq] at hr
              subst hr
              have hdw : decWrap (pre.length + cur.length + 1) = pre.length + cur.length := by simp [decWrap]
              rw [scanLine_cr s13, scanLine_lf s10 hq, Option.getD_some, hdw, if_pos rfl] at h
              obtain ⟨rfl, rfl⟩ := Prod.mk.inj h
              rw [parity_even hq, absLine_crlf s13]
              refine ⟨?_, by omega, ?_, fun _ => by omega⟩
              · simp only [view, List.map_cons, List.map_nil, prependCur_single, hsub]
                rw [slice_mid]
              · rw [show pre.length + cur.length + 1 + 1 - (pre.length + cur.length) = 2 by omega]; rfl
          · -- a CR that is not the first half of a line break outside quotes
            rw [scanLine_cr s13] at h
            obtain ⟨a1, a2, a3⟩ := push dq (some (pre.length + cur.length)) (fun p hp => by cases hp; omega)
              (fun _ hh => hcrlf ⟨hh.2, hh.1⟩) h
            have habs : absLine sep (13 :: r) (decide (dq % 2 = 1)) = pushRaw 13 (absLine sep r (decide (dq % 2 = 1))) := by
              apply absLine_other (by decide)
              · exact fun h => s13 h.1.symm
              · intro h; exact hcrlf ⟨parity_false h.2.1, h.2.2⟩
              · intro h; cases h.1
            rw [habs, pushRaw_snd]
            refine ⟨?_, by omega, a3, fun _ => by omega⟩
            rw [a1]; exact prependCur_push cur 13 (by decide) _ _
        · by_cases h10 : c = 10 ∧ dq % 2 = 0
          · -- LF outside quotes, not preceded by a CR of this value
            obtain ⟨hc, hq⟩ := h10
            subst hc
            have hncr : ¬ (cr.getD (pre.length + cur.length) = decWrap (pre.length + cur.length)) := fun h =>
              have ⟨h1, h2⟩ := (crBefore_iff hcr).mp h
              hH h1 h2 ⟨rfl, hq⟩
            rw [scanLine_lf s10 hq, if_neg hncr] at h
            obtain ⟨rfl, rfl⟩ := Prod.mk.inj h
            rw [parity_even hq, absLine_lf s10]
            refine ⟨?_, by omega, ?_, fun _ => by omega⟩
            · simp only [view, List.map_cons, List.map_nil, prependCur_single, hsub]
              rw [slice_mid]
            · rw [show pre.length + cur.length + 1 - (pre.length + cur.length) = 1 by omega]; rfl
          · -- any other character
            rw [scanLine_other h34 hsep h13 h10] at h
            obtain ⟨a1, a2, a3⟩ := push dq cr (fun p hp => by have := hcr p hp; omega)
              (fun h => by have := hcr _ h; omega) h
            have habs : absLine sep (c :: r) (decide (dq % 2 = 1)) = pushRaw c (absLine sep r (decide (dq % 2 = 1))) := by
              apply absLine_other h34
              · intro h; exact hsep ⟨h.1, parity_false h.2⟩
              · intro h; exact h13 h.1
              · intro h; exact h10 ⟨h.1, parity_false h.2⟩
            rw [habs, pushRaw_snd]
            refine ⟨?_, by omega, a3, fun _ => by omega⟩
            rw [a1]; exact prependCur_push cur c h34 _ _

end BSVerif.Csv.Reader
