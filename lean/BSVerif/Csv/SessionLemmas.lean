/-
  Sessions of the abstract reader: under a reading discipline `P` with the step property
  (`LineStep`), the session delivers exactly what the Oracle expects from the table (`expectOfRecs`).
  First what these proofs and `Props/C09` need to know of the Oracle's own functions.
-/
import BSVerif.Csv.AbstractLemmas
import BSVerif.Csv.Oracle

namespace BSVerif.Csv.Abs
open BSVerif.Csv BSVerif.Csv.Reader BSVerif.Csv.Spec BSVerif.Csv.Oracle

/-- under a header without duplicates the fast path of `ReadValue(key)` and `std::find` agree -/
theorem resolveKey_nodup {hdr : List (List Nat)} (hn : hdr.Nodup) (vi : Nat) (key : List Nat) :
    resolveKey hdr vi key = if key ∈ hdr then (hdr.idxOf key, true) else (vi + 1, false) := by
  unfold resolveKey
  dsimp only
  split
  · by_cases hm : key ∈ hdr
    · rw [if_pos hm, if_neg (Nat.not_le.mpr (List.idxOf_lt_length_of_mem hm))]
    · rw [if_neg hm, if_pos (Nat.le_of_eq (List.idxOf_eq_length hm).symm)]
  · rename_i h
    obtain ⟨hlt, rfl⟩ := List.getElem?_eq_some_iff.mp (Classical.not_not.mp fun hc => h (Or.inr hc))
    rw [if_pos (List.getElem_mem hlt), hn.idxOf_getElem]

/-- the cell a by-key request delivers (Oracle semantics) -/
def reqCell (hdr : Option (List Field)) (row : List Field) : Req → Cell
  | .key n => lookupCell hdr row (keyOf (hdr.getD []) n)
  | .lit k => lookupCell hdr row k
  | .idx => .notFound

theorem fixIndex_addRow (n : Nat) (row : List Cell) (o : Outcome) : (fixIndex n o).addRow row = fixIndex n (o.addRow row) := by
  cases o <;> rfl

theorem scriptKind_keys {script : List Req} (h : noIdx script = true) : scriptKind script = .keys :=
  if_pos h

theorem expectRow_keys {script : List Req} (h : noIdx script = true) (hdr : Option (List Field)) (row : List Field) :
    expectRow hdr script row = script.map (reqCell hdr row) := by
  unfold expectRow
  rw [scriptKind_keys h]
  exact List.map_congr_left fun q _ => by cases q <;> rfl

theorem expectOfRecs_keys {script : List Req} (hk : noIdx script = true) {hdr : List Field} (hn : hdr.Nodup) (rows : List (List Field)) :
    expectOfRecs true script (hdr :: rows) = some (fixIndex rows.length (expectRows (some hdr) script hdr.length rows)) := by
  have hkind : scriptKind script ≠ .mixed := by rw [scriptKind_keys hk]; intro h; cases h
  simp only [expectOfRecs, hkind, if_false, if_true, show ¬ (¬ hdr.Nodup ∧ allIdx script = false) from fun h => h.1 hn]

theorem expectRows_bad (hdr : Option (List Field)) (script : List Req) (hk : noIdx script = true) (w : Nat) (rows : List (List Field))
    (hbad : ∃ r ∈ rows, r.length ≠ w) : ∃ n, expectRows hdr script w rows = .err .parsing n := by
  induction rows with
  | nil => simp at hbad
  | cons r rs ih =>
    by_cases h1 : r.length ≠ w
    · exact ⟨0, by simp [expectRows, h1]⟩
    · have : ∃ r' ∈ rs, r'.length ≠ w := by
        obtain ⟨r', hm, hn⟩ := hbad
        simp only [List.mem_cons] at hm
        rcases hm with rfl | hm
        · exact absurd hn h1
        · exact ⟨r', hm, hn⟩
      obtain ⟨n, hn⟩ := ih this
      have h2 : ¬ (scriptKind script = .idxs ∧ script.length > w) := by
        rw [scriptKind_keys hk]; intro h; cases h.1
      exact ⟨n + 1, by simp [expectRows, h1, h2, hn, Outcome.addRow]⟩

theorem lookup_self (keys : List Field) (hn : keys.Nodup) (row : List Field) (hl : row.length = keys.length) :
    keys.map (lookupCell (some keys) row) = row.map .val := by
  apply List.ext_getElem
  · simp [hl]
  · intro i h1 h2
    simp only [List.getElem_map, lookupCell]
    simp only [List.length_map] at h1 h2
    rw [hn.idxOf_getElem i h1, List.getElem?_eq_getElem h2]
    simp [h1]

namespace AbsReader

theorem readValueIdx_decodes {a : AbsReader} {row : List Field} (hd : Decodes a.cells row) :
    a.readValueIdx = match row[a.valueIndex]? with
      | some v => .ok (v, { a with valueIndex := a.valueIndex + 1 })
      | none => .error .serOutOfRange := by
  have := hd.getElem? a.valueIndex
  unfold readValueIdx
  cases hr : row[a.valueIndex]? <;> cases hc : a.cells[a.valueIndex]? <;> simp only [hr, hc, Option.map_some, Option.map_none] at this
  · rfl
  · cases this
  · cases this
  · simp only [Option.some.inj this, ok_bind, pure_ok]

theorem readValueKey_hdr (a : AbsReader) (hdr row : List Field) (hw : a.withHeader = true) (hh : a.headers = hdr)
    (hn : hdr.Nodup) (hd : Decodes a.cells row) (hl : row.length = hdr.length) (key : List Nat) :
    ∃ vi v, a.readValueKey key = .ok (v, { a with valueIndex := vi }) ∧
      (match v with | some v => Cell.val v | none => .notFound) = lookupCell (some hdr) row key := by
  unfold readValueKey
  simp only [hw, Bool.not_true, Bool.false_eq_true, if_false, hh, resolveKey_nodup hn, lookupCell]
  by_cases hm : key ∈ hdr
  · have hlt : hdr.idxOf key < hdr.length := List.idxOf_lt_length_of_mem hm
    have hr : hdr.idxOf key < row.length := by omega
    have hc : hdr.idxOf key < a.cells.length := by have := hd.length; omega
    have := hd.getElem? (hdr.idxOf key)
    rw [List.getElem?_eq_getElem hr, List.getElem?_eq_getElem hc, Option.map_some, Option.map_some] at this
    refine ⟨hdr.idxOf key, some row[hdr.idxOf key], ?_, ?_⟩
    · simp only [hm, if_true, Bool.not_true, Bool.false_eq_true, if_false, List.getElem?_eq_getElem hc,
        Option.some.inj this, ok_bind, pure_ok]
    · simp only [List.getElem?_eq_getElem hr, hlt, if_true]
  · refine ⟨a.valueIndex + 1, none, ?_, ?_⟩
    · simp only [hm, if_false, Bool.not_false, if_true]
    · simp only [List.idxOf_eq_length hm, ← hl, List.getElem?_eq_none (Nat.le_refl _)]

theorem runScript_keys (hdr row : List Field) (hn : hdr.Nodup) (hl : row.length = hdr.length) (script : List Req) (hk : noIdx script = true) :
    ∀ (a : AbsReader), a.withHeader = true → a.headers = hdr → Decodes a.cells row →
      ∃ vi, a.runScript script = .ok (script.map (reqCell (some hdr) row), { a with valueIndex := vi }) := by
  induction script with
  | nil => intro a _ _ _; exact ⟨a.valueIndex, rfl⟩
  | cons q qs ih =>
    intro a hw hh hd
    simp only [noIdx, List.all_cons, Bool.and_eq_true] at hk
    have lit : ∀ k, ∃ vi, a.runScript (.lit k :: qs) = .ok (lookupCell (some hdr) row k :: qs.map (reqCell (some hdr) row),
        { a with valueIndex := vi }) := fun k => by
      obtain ⟨vi, v, h1, hv⟩ := readValueKey_hdr a hdr row hw hh hn hd hl k
      obtain ⟨vj, h2⟩ := ih hk.2 { a with valueIndex := vi } hw hh hd
      exact ⟨vj, by simp only [runScript, h1, ok_bind, h2, pure_ok, ← hv]; cases v <;> rfl⟩
    cases q with
    | idx => cases hk.1
    | key n => exact hh ▸ lit (keyOf a.headers n)
    | lit k => exact lit k

theorem runScript_keys_nohdr (row : List Field) (script : List Req) (hk : noIdx script = true) (a : AbsReader)
    (hw : a.withHeader = false) : a.runScript script = .ok (script.map (reqCell none row), a) := by
  induction script with
  | nil => rfl
  | cons q qs ih =>
    simp only [noIdx, List.all_cons, Bool.and_eq_true] at hk
    have lit : ∀ k, a.runScript (.lit k :: qs) = .ok (Cell.notFound :: qs.map (reqCell none row), a) := fun k => by
      simp only [runScript, readValueKey, hw, Bool.not_false, if_true, ok_bind, ih hk.2, pure_ok]
    cases q with
    | idx => cases hk.1
    | key n => exact lit _
    | lit k => exact lit k

theorem runScript_idxs (row : List Field) (script : List Req) (hk : allIdx script = true) :
    ∀ (a : AbsReader), Decodes a.cells row → a.valueIndex ≤ row.length →
      a.runScript script =
        if a.valueIndex + script.length ≤ row.length then
          .ok (((row.drop a.valueIndex).take script.length).map .val, { a with valueIndex := a.valueIndex + script.length })
        else .error .serOutOfRange := by
  induction script with
  | nil => intro a _ h; simp only [runScript, List.length_nil, Nat.add_zero, if_pos h, List.take_zero, List.map_nil]
  | cons q qs ih =>
    intro a hd hle
    simp only [allIdx, List.all_cons, Bool.and_eq_true] at hk
    cases q with
    | key n => cases hk.1
    | lit k => cases hk.1
    | idx =>
      simp only [runScript, readValueIdx_decodes hd, List.length_cons]
      by_cases hlt : a.valueIndex < row.length
      · rw [List.getElem?_eq_getElem hlt, List.drop_eq_getElem_cons hlt]
        simp only [ok_bind, ih hk.2 { a with valueIndex := a.valueIndex + 1 } hd hlt, pure_ok,
          show a.valueIndex + 1 + qs.length = a.valueIndex + (qs.length + 1) by omega]
        split <;> simp only [ok_bind, error_bind, List.take_succ_cons, List.map_cons]
      · rw [List.getElem?_eq_none (by omega), if_neg (by omega)]; rfl

theorem isEnd_eq_false {a : AbsReader} (h : a.rem ≠ []) : a.isEnd = false :=
  List.isEmpty_eq_false_iff.mpr h

theorem parseNextLine_step (a : AbsReader) {cells : List RawCell} {rest : List Nat} (hne : a.rem ≠ [])
    (hl : absLine a.sep a.rem false = (cells, rest)) :
    a.parseNextLine =
      (true, { a with lineNumber := a.lineNumber + 1, prevValuesCount := a.cells.length, cells := cells, rem := rest }) := by
  have hce : cells.isEmpty = false :=
    List.isEmpty_eq_false_iff.mpr (by have := absLine_cells_ne a.sep a.rem false; rwa [hl] at this)
  unfold parseNextLine
  simp only [List.isEmpty_eq_false_iff.mpr hne, Bool.false_eq_true, if_false, hl, hce, Bool.not_false]

theorem parseNextRow_step (a : AbsReader) (cells : List RawCell) (rest : List Nat) (hne : a.rem ≠ [])
    (hl : absLine a.sep a.rem false = (cells, rest)) :
    a.parseNextRow =
      if a.withHeader = true ∧ a.headers.length ≠ cells.length then .error .parsing
      else if ¬ a.withHeader = true ∧ a.lineNumber + 1 ≥ 2 ∧ a.cells.length ≠ cells.length then .error .parsing
      else .ok (true, { a with lineNumber := a.lineNumber + 1, prevValuesCount := a.cells.length, cells := cells, rem := rest,
                               valueIndex := 0,
                               rowIndex := if a.lineNumber + 1 = (if a.withHeader = true then 2 else 1) then a.rowIndex else a.rowIndex + 1 }) := by
  unfold parseNextRow
  rw [parseNextLine_step a hne hl]
  simp only [if_true]

theorem runScript_row (hdrOpt : Option (List Field)) (script : List Req) (hkind : scriptKind script ≠ .mixed)
    (hnd : ∀ hdr, hdrOpt = some hdr → hdr.Nodup ∨ allIdx script = true) (row : List Field) (a : AbsReader)
    (hw : a.withHeader = hdrOpt.isSome) (hh : a.headers = hdrOpt.getD []) (hd : Decodes a.cells row) (hv : a.valueIndex = 0)
    (hl : ∀ hdr, hdrOpt = some hdr → row.length = hdr.length) :
    if scriptKind script = .idxs ∧ script.length > row.length then a.runScript script = .error .serOutOfRange
    else ∃ vi, a.runScript script = .ok (expectRow hdrOpt script row, { a with valueIndex := vi }) := by
  unfold scriptKind at hkind ⊢
  by_cases hk : noIdx script = true
  · rw [if_pos hk, if_neg (fun h => by cases h.1)]
    have hexp := expectRow_keys hk hdrOpt row
    cases hdrOpt with
    | none => exact ⟨a.valueIndex, by rw [hexp]; exact runScript_keys_nohdr row script hk a hw⟩
    | some hdr =>
      rw [hexp]
      rcases hnd hdr rfl with hn | he
      · exact runScript_keys hdr row hn (hl hdr rfl) script hk a hw hh hd
      · cases script with
        | nil => exact ⟨a.valueIndex, rfl⟩
        | cons q qs =>
          simp only [noIdx, allIdx, List.all_cons, Bool.and_eq_true] at hk he
          rw [he.1] at hk; cases hk.1
  · rw [if_neg hk] at hkind ⊢
    have hk2 : allIdx script = true := Classical.not_not.mp fun h => hkind (if_neg h)
    rw [if_pos hk2, runScript_idxs row script hk2 a hd (by omega), hv, Nat.zero_add, List.drop_zero]
    by_cases hlen : script.length ≤ row.length
    · rw [if_pos hlen, if_neg (by omega)]
      exact ⟨script.length, by simp only [expectRow, scriptKind, if_neg hk, if_pos hk2]⟩
    · rw [if_neg hlen, if_pos ⟨rfl, by omega⟩]

/-- the abstract reader after `k` data rows of a table with header `hdrOpt` whose rows have `width` fields -/
structure LoopInv (sep : Nat) (hdrOpt : Option (List Field)) (width k : Nat) (a : AbsReader) : Prop where
  width_eq : ∀ hdr, hdrOpt = some hdr → width = hdr.length
  sep : a.sep = sep
  wh : a.withHeader = hdrOpt.isSome
  hdr : a.headers = hdrOpt.getD []
  ln : a.lineNumber = k + (if hdrOpt.isSome then 1 else 0)
  ri : a.rowIndex = k - 1   -- the 0-based index of the row read last; truncated subtraction, so 0 before the first row as well
  prev : hdrOpt = none → k ≥ 1 → a.cells.length = width

theorem LoopInv.parseNextRow {sep : Nat} {hdrOpt : Option (List Field)} {width k : Nat} {a : AbsReader}
    (h : LoopInv sep hdrOpt width k a) {cells : List RawCell} {rem' : List Nat} {row : List Field} (hne : a.rem ≠ [])
    (hl : absLine sep a.rem false = (cells, rem')) (hdec : Decodes cells row)
    (hfirst : hdrOpt = none → k = 0 → row.length = width) :
    if row.length = width then
      ∃ a2, a.parseNextRow = .ok (true, a2) ∧ LoopInv sep hdrOpt width (k + 1) a2 ∧ a2.cells = cells ∧ a2.rem = rem' ∧
        a2.valueIndex = 0
    else a.parseNextRow = .error .parsing := by
  have hclen := hdec.length
  have hln := h.ln
  -- the two width tests of `ParseNextRow` amount to comparing the record with `width`
  have hcheck : (a.withHeader = true ∧ a.headers.length ≠ cells.length) ∨
      (¬ a.withHeader = true ∧ a.lineNumber + 1 ≥ 2 ∧ a.cells.length ≠ cells.length) ↔ row.length ≠ width := by
    rw [h.wh, h.hdr, hclen]
    cases hdrOpt with
    | some hdr =>
      have := h.width_eq hdr rfl
      simp only [Option.isSome_some, Option.getD_some, true_and, not_true_eq_false, false_and, or_false]
      omega
    | none =>
      simp only [Option.isSome_none, Bool.false_eq_true, if_false, Nat.add_zero] at hln
      simp only [Option.isSome_none, Bool.false_eq_true, false_and, not_false_eq_true, true_and, false_or, hln]
      constructor
      · intro hc; have := h.prev rfl (by omega); omega
      · intro hc
        have hk : k ≥ 1 := Classical.not_not.mp fun hk => hc (hfirst rfl (by omega))
        have := h.prev rfl hk
        omega
  rw [parseNextRow_step a cells rem' hne (h.sep ▸ hl)]
  by_cases hrw : row.length = width
  · rw [if_pos hrw, if_neg fun c => hcheck.mp (Or.inl c) hrw, if_neg fun c => hcheck.mp (Or.inr c) hrw]
    -- the line just read is the first data row, for which `rowIndex` stays, exactly when `k = 0`
    have hfirstRow : a.lineNumber + 1 = (if a.withHeader = true then 2 else 1) ↔ k = 0 := by
      rw [hln, h.wh]
      cases hdrOpt.isSome <;> simp only [Bool.false_eq_true, if_false, if_true] <;> omega
    refine ⟨_, rfl, { h with ln := by dsimp only; omega, ri := ?_, prev := fun _ _ => hclen.trans hrw }, rfl, rfl, rfl⟩
    simp only [hfirstRow, h.ri]
    split <;> omega
  · rw [if_neg hrw]
    rcases hcheck.mpr hrw with c | c
    · rw [if_pos c]
    · rw [if_neg fun c1 => c.1 c1.1, if_pos c]

theorem loop_expect {sep : Nat} {P : Table → List Nat → Prop} (hP : LineStep sep P) (hdrOpt : Option (List Field))
    (script : List Req) (hkind : scriptKind script ≠ .mixed) (hnd : ∀ hdr, hdrOpt = some hdr → hdr.Nodup ∨ allIdx script = true)
    (width : Nat) :
    ∀ (rows : List (List Field)) (a : AbsReader) (fuel k : Nat), LoopInv sep hdrOpt width k a → P rows a.rem →
      -- without a header nothing is compared with the first row: `width` has to be its width
      (hdrOpt = none → k = 0 → ∀ row rest, rows = row :: rest → row.length = width) →
      fuel ≥ a.rem.length + 1 →
      a.loop script fuel = fixIndex (k + rows.length) (expectRows hdrOpt script width rows) := by
  intro rows
  induction rows with
  | nil =>
    intro a fuel k h hp _ hf
    obtain ⟨fuel, rfl⟩ : ∃ n, fuel = n + 1 := ⟨fuel - 1, by omega⟩
    simp only [loop, isEnd, hP.nil _ hp, List.isEmpty_nil, if_true, expectRows, fixIndex, h.hdr, h.ri, List.length_nil, Nat.add_zero]
  | cons row rest ih =>
    intro a fuel k h hp hfirst hf
    obtain ⟨hne, cells, rem', hl, hdec, hp'⟩ := hP.cons _ _ _ hp
    have hlt := absLine_rest_lt (sep := sep) a.rem false hne
    rw [hl] at hlt
    obtain ⟨fuel, rfl⟩ : ∃ n, fuel = n + 1 := ⟨fuel - 1, by omega⟩
    have hrow := h.parseNextRow hne hl hdec fun h1 h2 => hfirst h1 h2 row rest rfl
    simp only [loop, isEnd_eq_false hne, Bool.false_eq_true, if_false, expectRows]
    by_cases hrw : row.length = width
    · rw [if_pos hrw] at hrow
      obtain ⟨a2, hstep, h2, hc2, hr2, hv2⟩ := hrow
      have hscr := runScript_row hdrOpt script hkind hnd row a2 h2.wh h2.hdr (hc2 ▸ hdec) hv2
        fun hdr e => hrw.trans (h.width_eq hdr e)
      rw [hrw] at hscr
      simp only [hstep, if_neg (fun hc : row.length ≠ width => hc hrw)]
      by_cases hc : scriptKind script = .idxs ∧ script.length > width
      · rw [if_pos hc] at hscr
        simp only [hscr, if_pos hc]; rfl
      · rw [if_neg hc] at hscr
        obtain ⟨vi, hscr⟩ := hscr
        simp only [hscr, if_neg hc, ← fixIndex_addRow]
        rw [ih { a2 with valueIndex := vi } fuel (k + 1) { h2 with } (hr2 ▸ hp') (fun _ hk => by omega)
          (by dsimp only; rw [hr2]; dsimp only at hlt; omega), List.length_cons, Nat.add_assoc, Nat.add_comm 1]
    · rw [if_neg hrw] at hrow
      simp only [hrow, if_pos hrw]; rfl

theorem readHeaders_all (row : List Field) (n : Nat) : ∀ (a : AbsReader), Decodes a.cells row → a.valueIndex + n = row.length →
    a.readHeaders n = .ok (row.drop a.valueIndex, { a with valueIndex := a.valueIndex + n }) := by
  induction n with
  | zero =>
    intro a _ h
    rw [List.drop_eq_nil_iff.mpr (by omega)]; rfl
  | succ n ih =>
    intro a hd h
    have hlt : a.valueIndex < row.length := by omega
    simp only [readHeaders, readValueIdx_decodes hd, List.getElem?_eq_getElem hlt, ok_bind,
      ih { a with valueIndex := a.valueIndex + 1 } hd (by dsimp only; omega), pure_ok, List.drop_eq_getElem_cons hlt,
      show a.valueIndex + 1 + n = a.valueIndex + (n + 1) by omega]

end AbsReader

theorem absSession_expect {sep : Nat} {P : Table → List Nat → Prop} (hP : LineStep sep P) (wh : Bool) (script : List Req)
    (recs : Table) (txt : List Nat) (h : P recs txt) (exp : Outcome) (he : expectOfRecs wh script recs = some exp) :
    absSession sep wh script txt = exp := by
  unfold expectOfRecs at he
  split at he
  · cases he
  · rename_i hkind
    unfold absSession AbsReader.create
    cases wh with
    | true =>
      simp only [if_true] at he ⊢
      cases recs with
      | nil =>
        cases he
        rw [hP.nil _ h]; rfl
      | cons hdr rows =>
        dsimp only at he
        split at he
        · cases he
        · rename_i hnd
          cases he
          obtain ⟨hne, cells, rest, hl, hdec, hp'⟩ := hP.cons _ _ _ h
          have hlt := absLine_rest_lt (sep := sep) txt false hne
          rw [hl] at hlt
          have hrh := AbsReader.readHeaders_all hdr cells.length
            { rem := rest, withHeader := true, sep := sep, cells := cells, lineNumber := 0 + 1, prevValuesCount := 0 }
            hdec (by dsimp only; rw [Decodes.length hdec]; omega)
          -- the header line is read and all its cells are taken as the column names
          rw [AbsReader.parseNextLine_step _ hne hl]
          simp only [if_true, List.length_nil, hrh, ok_bind, pure_ok, List.drop_zero]
          have hnd' : hdr.Nodup ∨ allIdx script = true := Classical.or_iff_not_imp_left.mpr fun hn =>
            Classical.not_not.mp fun hb => hnd ⟨hn, Bool.eq_false_iff.mpr hb⟩
          rw [AbsReader.loop_expect hP (some hdr) script hkind (fun _ e => Option.some.inj e ▸ hnd') hdr.length rows _
            (txt.length + 1) 0
            { width_eq := fun _ e => Option.some.inj e ▸ rfl, sep := rfl, wh := rfl, hdr := rfl, ln := rfl, ri := rfl,
              prev := fun h' => (by cases h') }
            hp' (fun h' => by cases h') (by dsimp only at hlt ⊢; omega), Nat.zero_add]
    | false =>
      simp only [Bool.false_eq_true, if_false] at he ⊢
      have key : ∀ width, (∀ row rest, recs = row :: rest → row.length = width) →
          ({ rem := txt, withHeader := false, sep := sep } : AbsReader).loop script (txt.length + 1)
            = fixIndex recs.length (expectRows none script width recs) := fun width hw => by
        rw [AbsReader.loop_expect hP none script hkind (fun _ e => by cases e) width recs _ (txt.length + 1) 0
          { width_eq := fun _ e => (by cases e), sep := rfl, wh := rfl, hdr := rfl, ln := rfl, ri := rfl, prev := fun _ h' => (by omega) }
          h (fun _ _ => hw) (Nat.le_refl _), Nat.zero_add]
      cases recs with
      | nil => cases he; exact key 0 fun _ _ e => by cases e
      | cons first rest => cases he; exact key first.length fun row r e => by cases e; rfl

end BSVerif.Csv.Abs
