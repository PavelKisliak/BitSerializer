/-
  Slices of a buffer (`std::string_view(data + off, size)`), and the facts about `List.drop` and
  `List.Pairwise` that the proofs about the scanners and about unescaping in place use.
-/
import BSVerif.Csv.Common

namespace BSVerif.Csv

theorem slice_getElem? (buf : List Nat) (o s k : Nat) : (slice buf o s)[k]? = if k < s then buf[o + k]? else none := by
  unfold slice
  rw [List.getElem?_take]
  split
  · rw [List.getElem?_drop]
  · rfl

theorem slice_congr {a b : List Nat} {o s : Nat} (h : ∀ i, o ≤ i → i < o + s → a[i]? = b[i]?) : slice a o s = slice b o s := by
  apply List.ext_getElem?
  intro k
  rw [slice_getElem?, slice_getElem?]
  split
  · exact h (o + k) (by omega) (by omega)
  · rfl

theorem slice_length {buf : List Nat} {o s : Nat} (h : o + s ≤ buf.length) : (slice buf o s).length = s := by
  simp [slice]; omega

theorem slice_append_left {buf app : List Nat} {o s : Nat} (h : o + s ≤ buf.length) : slice (buf ++ app) o s = slice buf o s :=
  slice_congr fun i _ hi => List.getElem?_append_left (by omega)

theorem slice_mid (pre cur rest : List Nat) : slice (pre ++ cur ++ rest) pre.length cur.length = cur := by
  simp [slice, List.append_assoc]

theorem Stream.slice_mid' (pre cur rest : List Nat) (n : Nat) (hn : n = cur.length) : slice (pre ++ cur ++ rest) pre.length n = cur := by
  subst hn; exact slice_mid pre cur rest

theorem slice_slice (buf : List Nat) {o s o' s' : Nat} (h : o' + s' ≤ s) : slice (slice buf o s) o' s' = slice buf (o + o') s' := by
  apply List.ext_getElem?
  intro k
  rw [slice_getElem?, slice_getElem?, slice_getElem?]
  split
  · rw [if_pos (by omega), Nat.add_assoc]
  · rfl

theorem drop_succ_of_le {α : Type} (c : α) (r : List α) {n p : Nat} (h : p + 1 ≤ n) :
    (c :: r).drop (n - p) = r.drop (n - (p + 1)) := by
  rw [show n - p = (n - (p + 1)) + 1 by omega]; rfl

theorem drop_append_of_lt {buf : List Nat} {pos : Nat} (h : pos < buf.length) (L : List Nat) :
    (buf ++ L).drop pos = buf[pos] :: (buf ++ L).drop (pos + 1) := by
  rw [List.drop_eq_getElem_cons (by rw [List.length_append]; omega), List.getElem_append_left h]

theorem rel_of_pairwise {α : Type} {R : α → α → Prop} {l : List α} (h : l.Pairwise R) {i j : Nat} {x y : α}
    (hi : l[i]? = some x) (hj : l[j]? = some y) (hij : i ≠ j) : R x y ∨ R y x := by
  obtain ⟨hi', rfl⟩ := List.getElem?_eq_some_iff.mp hi
  obtain ⟨hj', rfl⟩ := List.getElem?_eq_some_iff.mp hj
  rcases Nat.lt_or_gt_of_ne hij with hlt | hgt
  · exact Or.inl (List.pairwise_iff_getElem.mp h i j hi' hj' hlt)
  · exact Or.inr (List.pairwise_iff_getElem.mp h j i hj' hi' hgt)

theorem pairwise_set {α : Type} {R : α → α → Prop} {l : List α} (h : l.Pairwise R) {i : Nat} {x y : α} (hi : l[i]? = some x)
    (h1 : ∀ z, R z x → R z y) (h2 : ∀ z, R x z → R y z) : (l.set i y).Pairwise R := by
  induction l generalizing i with
  | nil => exact List.Pairwise.nil
  | cons a as ih =>
    rw [List.pairwise_cons] at h
    cases i with
    | zero =>
      obtain rfl : a = x := by simpa using hi
      exact List.pairwise_cons.mpr ⟨fun z hz => h2 z (h.1 z hz), h.2⟩
    | succ i =>
      rw [List.getElem?_cons_succ] at hi
      refine List.pairwise_cons.mpr ⟨fun z hz => ?_, ih h.2 hi⟩
      rcases List.mem_or_eq_of_mem_set hz with hz | rfl
      · exact h.1 z hz
      · exact h1 a (h.1 x (List.mem_of_getElem? hi))

end BSVerif.Csv
