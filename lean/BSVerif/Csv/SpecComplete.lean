/-
  Completeness of the rendering relation: every text the strict RFC 4180 recogniser accepts IS a
  rendering (`Renders`) of the table it is read as. Together with `parse_of_renders` this shows that
  `Renders sep t txt ↔ parse sep txt = some t`, so the theorems stated over `Renders` cover exactly the
  conformant texts.
-/
import BSVerif.Csv.SpecLemmas

namespace BSVerif.Csv.Spec

variable {sep : Nat}

/-- what may follow a complete record: the end of the text, or a line break and the remaining table -/
def After (sep : Nat) (rs : Table) (k : List Nat) : Prop :=
  (k = [] ∧ rs = []) ∨ (∃ e t, EolR e ∧ k = e ++ t ∧ Renders sep rs t)

/-- what may follow a complete field: the end of the record, or a separator and the remaining fields -/
def RestRec (sep : Nat) (fs : Record) (rs : Table) (k : List Nat) : Prop :=
  (fs = [] ∧ After sep rs k) ∨ (∃ s k', k = sep :: (s ++ k') ∧ RecordR sep fs s ∧ After sep rs k')

theorem recordR_ne_nil {r : Record} {s : List Nat} (h : RecordR sep r s) : r ≠ [] := by
  cases h <;> simp

theorem mkRecord {f : Field} {sf : List Nat} (hf : FieldR sep f sf) {fs : Record} {rs : Table} {k : List Nat}
    (h : RestRec sep fs rs k) : ∃ s k', sf ++ k = s ++ k' ∧ RecordR sep (f :: fs) s ∧ After sep rs k' := by
  rcases h with ⟨rfl, ha⟩ | ⟨s, k', rfl, hr, ha⟩
  · exact ⟨sf, k, rfl, RecordR.one hf, ha⟩
  · exact ⟨sf ++ sep :: s, k', by simp, RecordR.cons hf (recordR_ne_nil hr) hr, ha⟩

theorem mkTable {r : Record} {s : List Nat} (hr : RecordR sep r s) {rs : Table} {k : List Nat} (ha : After sep rs k)
    (hne : s ++ k ≠ []) : Renders sep (r :: rs) (s ++ k) := by
  rcases ha with ⟨rfl, rfl⟩ | ⟨e, t, he, rfl, ht⟩
  · rw [List.append_nil] at hne ⊢; exact Renders.last hr hne
  · exact Renders.cons hr he ht

/-- what `go sep st l = some T` means, state by state, in terms of the rendering relation -/
def Reads (sep : Nat) : St → List Nat → Table → Prop
  | .recStart, l, T => Renders sep T l
  | .fieldStart, l, T => ∃ r rs s k, T = r :: rs ∧ l = s ++ k ∧ RecordR sep r s ∧ After sep rs k
  | .unq, l, T => ∃ f fs rs k, T = (f :: fs) :: rs ∧ l = f ++ k ∧ f.all (isText sep) = true ∧ RestRec sep fs rs k
  | .quoted, l, T => ∃ f fs rs k, T = (f :: fs) :: rs ∧ l = escape f ++ 34 :: k ∧ RestRec sep fs rs k
  | .afterQuote, l, T => ∃ f fs rs k, T = (f :: fs) :: rs ∧ RestRec sep fs rs k ∧
      ((f = [] ∧ l = k) ∨ ∃ f', f = 34 :: f' ∧ l = 34 :: (escape f' ++ 34 :: k))
  | .afterCR, l, T => ∃ t rs, l = 10 :: t ∧ T = [[]] :: rs ∧ Renders sep rs t

theorem reads_fieldStart_of_unq {l : List Nat} {T : Table} (h : Reads sep .unq l T) : Reads sep .fieldStart l T := by
  obtain ⟨f, fs, rs, k, rfl, rfl, hf, hr⟩ := h
  obtain ⟨s, k', h1, h2, h3⟩ := mkRecord (FieldR.plain f hf) hr
  exact ⟨f :: fs, rs, s, k', rfl, h1, h2, h3⟩

theorem reads_fieldStart_of_quoted {l : List Nat} {T : Table} (h : Reads sep .quoted l T) : Reads sep .fieldStart (34 :: l) T := by
  obtain ⟨f, fs, rs, k, rfl, rfl, hr⟩ := h
  obtain ⟨s, k', e1, e2, e3⟩ := mkRecord (FieldR.quoted f) hr
  exact ⟨f :: fs, rs, s, k', rfl, by rw [← e1]; simp, e2, e3⟩

theorem reads_of_go (hs : SepOk sep) : ∀ (l : List Nat) (st : St) (T : Table), go sep st l = some T → Reads sep st l T := by
  obtain ⟨s34, s13, s10⟩ := hs
  intro l
  induction l with
  | nil =>
    intro st T h
    -- at the end of the text the field being read, its record and the table are complete
    have hafter : After sep [] [] := Or.inl ⟨rfl, rfl⟩
    have hrest : RestRec sep [] [] [] := Or.inl ⟨rfl, hafter⟩
    cases st with
    | recStart => cases h; exact Renders.nil
    | fieldStart => cases h; exact ⟨[[]], [], [], [], rfl, rfl, RecordR.one (FieldR.plain [] rfl), hafter⟩
    | unq => cases h; exact ⟨[], [], [], [], rfl, rfl, rfl, hrest⟩
    | afterQuote => cases h; exact ⟨[], [], [], [], rfl, hrest, Or.inl ⟨rfl, rfl⟩⟩
    | quoted => cases h
    | afterCR => cases h
  | cons c r ih =>
    -- a field terminator at the head of the text: the field read so far is complete
    have term : ∀ T, afterField sep (c :: r) = some T → ∃ fs rs, T = ([] :: fs) :: rs ∧ RestRec sep fs rs (c :: r) := by
      intro T h
      rw [afterField] at h
      split at h
      · obtain ⟨T', hT', rfl⟩ := Option.map_eq_some_iff.mp h
        obtain ⟨r', rs, s, k, rfl, rfl, hr, ha⟩ := ih .fieldStart T' hT'
        exact ⟨r', rs, rfl, Or.inr ⟨s, k, by rw [‹c = sep›], hr, ha⟩⟩
      · split at h
        · obtain ⟨T', hT', rfl⟩ := Option.map_eq_some_iff.mp h
          exact ⟨[], T', rfl, Or.inl ⟨rfl, Or.inr ⟨[10], r, EolR.lf, by rw [‹c = 10›]; rfl, ih .recStart T' hT'⟩⟩⟩
        · split at h
          · obtain ⟨t, rs, rfl, rfl, hr⟩ := ih .afterCR T h
            exact ⟨[], rs, rfl, Or.inl ⟨rfl, Or.inr ⟨[13, 10], t, EolR.crlf, by rw [‹c = 13›]; rfl, hr⟩⟩⟩
          · cases h
    have unq : ∀ T, go sep .unq (c :: r) = some T → Reads sep .unq (c :: r) T := by
      intro T h
      rw [go_unq_cons] at h
      split at h
      · cases h
      · split at h
        · obtain ⟨T', hT', rfl⟩ := Option.map_eq_some_iff.mp h
          obtain ⟨f, fs, rs, k, rfl, rfl, hf, hr⟩ := ih .unq T' hT'
          exact ⟨c :: f, fs, rs, k, rfl, rfl, by rw [List.all_cons, hf, ‹isText sep c = true›]; rfl, hr⟩
        · obtain ⟨fs, rs, e1, e2⟩ := term T h
          exact ⟨[], fs, rs, c :: r, e1, rfl, rfl, e2⟩
    have fieldStart : ∀ T, go sep .fieldStart (c :: r) = some T → Reads sep .fieldStart (c :: r) T := by
      intro T h
      rw [go_fieldStart_cons] at h
      split at h
      · rw [‹c = 34›]; exact reads_fieldStart_of_quoted (ih .quoted T h)
      · exact reads_fieldStart_of_unq (unq T h)
    intro st T h
    cases st with
    | quoted =>
      rw [go] at h
      split at h
      · obtain ⟨f, fs, rs, k, rfl, hr, hcase⟩ := ih .afterQuote T h
        rw [‹c = 34›]
        rcases hcase with ⟨rfl, rfl⟩ | ⟨f', rfl, rfl⟩
        · exact ⟨[], fs, rs, r, rfl, rfl, hr⟩
        · exact ⟨34 :: f', fs, rs, k, rfl, by simp [escape], hr⟩
      · obtain ⟨T', hT', rfl⟩ := Option.map_eq_some_iff.mp h
        obtain ⟨f, fs, rs, k, rfl, rfl, hr⟩ := ih .quoted T' hT'
        exact ⟨c :: f, fs, rs, k, rfl, by simp [escape, ‹¬ c = 34›], hr⟩
    | afterQuote =>
      rw [go_afterQuote_cons] at h
      split at h
      · obtain ⟨T', hT', rfl⟩ := Option.map_eq_some_iff.mp h
        obtain ⟨f, fs, rs, k, rfl, rfl, hr⟩ := ih .quoted T' hT'
        exact ⟨34 :: f, fs, rs, k, rfl, hr, Or.inr ⟨f, rfl, by rw [‹c = 34›]⟩⟩
      · obtain ⟨fs, rs, e1, e2⟩ := term T h
        exact ⟨[], fs, rs, c :: r, e1, e2, Or.inl ⟨rfl, rfl⟩⟩
    | afterCR =>
      rw [go] at h
      split at h
      · obtain ⟨T', hT', rfl⟩ := Option.map_eq_some_iff.mp h
        exact ⟨r, T', by rw [‹c = 10›], rfl, ih .recStart T' hT'⟩
      · cases h
    | unq => exact unq T h
    | fieldStart => exact fieldStart T h
    | recStart =>
      obtain ⟨r', rs, s, k, rfl, e1, hr, ha⟩ := fieldStart T ((go_recStart_cons c r).symm.trans h)
      show Renders sep (r' :: rs) (c :: r)
      rw [e1]
      exact mkTable hr ha (by rw [← e1]; simp)

theorem renders_of_parse (hs : SepOk sep) {txt : List Nat} {t : Table} (h : parse sep txt = some t) : Renders sep t txt :=
  reads_of_go hs txt .recStart t h

end BSVerif.Csv.Spec
