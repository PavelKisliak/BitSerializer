/-
  Lemmas about the RFC 4180 Spec alone: the strict recogniser reads every conformant rendering of a
  table back as that table (`parse_of_renders`), and the canonical rendering is a rendering.
-/
import BSVerif.Csv.Spec

namespace BSVerif.Csv.Spec

/-- prepend a whole field content to the field being read -/
def pushField (f : Field) (t : Table) : Table := f.foldr pushChar t

@[simp] theorem pushField_nil (t : Table) : pushField [] t = t := rfl
@[simp] theorem pushField_cons (c : Nat) (f : Field) (t : Table) : pushField (c :: f) t = pushChar c (pushField f t) := rfl
theorem map_pushField_nil (o : Option Table) : o.map (pushField []) = o := by cases o <;> rfl
theorem map_pushField_cons (c : Nat) (f : Field) (o : Option Table) :
    o.map (pushField (c :: f)) = (o.map (pushField f)).map (pushChar c) := by cases o <;> rfl

theorem pushField_head (f g : Field) (fs : Record) (rs : Table) :
    pushField f ((g :: fs) :: rs) = ((f ++ g) :: fs) :: rs := by
  induction f with
  | nil => rfl
  | cons c f ih => rw [pushField_cons, ih]; rfl

/-- what the recogniser does when a field is over; the argument is the text from the field's end on -/
def afterField (sep : Nat) : List Nat → Option Table
  | [] => some [[[]]]
  | c :: r =>
    if c = sep then (go sep .fieldStart r).map newField
    else if c = 10 then (go sep .recStart r).map newRecord
    else if c = 13 then go sep .afterCR r
    else none

/-- the text `k` after a field starts with what may end a field: nothing, a separator or a line break -/
inductive FieldEnd (sep : Nat) : List Nat → Prop
  | nil : FieldEnd sep []
  | sep (r) : FieldEnd sep (sep :: r)
  | lf (r) : FieldEnd sep (10 :: r)
  | crlf (r) : FieldEnd sep (13 :: 10 :: r)

/-- the text after a record starts with what may end a record: nothing or a line break -/
inductive LineEnd : List Nat → Prop
  | nil : LineEnd []
  | lf (r) : LineEnd (10 :: r)
  | crlf (r) : LineEnd (13 :: 10 :: r)

theorem LineEnd.fieldEnd {sep : Nat} {k : List Nat} (h : LineEnd k) : FieldEnd sep k := by
  cases h <;> constructor

variable {sep : Nat}

/-- at a field terminator the three states in which a field may end do the same -/
theorem go_fieldEnd (hs : SepOk sep) {k : List Nat} (h : FieldEnd sep k) :
    go sep .unq k = afterField sep k ∧ go sep .fieldStart k = afterField sep k ∧ go sep .afterQuote k = afterField sep k := by
  obtain ⟨h1, -, -⟩ := hs
  cases h <;> simp [go, afterField, h1]

theorem go_recStart_cons (c : Nat) (r : List Nat) : go sep .recStart (c :: r) = go sep .fieldStart (c :: r) := by
  simp [go]

theorem go_recStart_ne_nil {l : List Nat} (h : l ≠ []) : go sep .recStart l = go sep .fieldStart l := by
  cases l with
  | nil => exact absurd rfl h
  | cons c r => exact go_recStart_cons c r

theorem isText_iff {c : Nat} : isText sep c = true ↔ c ≠ 34 ∧ c ≠ sep ∧ c ≠ 13 ∧ c ≠ 10 := by
  simp [isText, and_assoc]

theorem go_afterQuote_cons (c : Nat) (r : List Nat) :
    go sep .afterQuote (c :: r) = if c = 34 then (go sep .quoted r).map (pushChar 34) else afterField sep (c :: r) := by
  rw [go, afterField]

theorem go_unq_cons (c : Nat) (r : List Nat) :
    go sep .unq (c :: r) =
      if c = 34 then none
      else if isText sep c then (go sep .unq r).map (pushChar c) else afterField sep (c :: r) := by
  rw [go, afterField]
  by_cases h1 : c = 34
  · simp only [if_pos h1]
  by_cases h2 : c = sep
  · simp only [if_neg h1, if_pos h2, if_neg fun h => (isText_iff.mp h).2.1 h2]
  by_cases h3 : c = 10
  · simp only [if_neg h1, if_neg h2, if_pos h3, if_neg fun h => (isText_iff.mp h).2.2.2 h3]
  by_cases h4 : c = 13
  · simp only [if_neg h1, if_neg h2, if_neg h3, if_pos h4, if_neg fun h => (isText_iff.mp h).2.2.1 h4]
  · simp only [if_neg h1, if_neg h2, if_neg h3, if_neg h4, if_pos (isText_iff.mpr ⟨h1, h2, h4, h3⟩)]

theorem go_fieldStart_cons (c : Nat) (r : List Nat) :
    go sep .fieldStart (c :: r) = if c = 34 then go sep .quoted r else go sep .unq (c :: r) := by
  by_cases h : c = 34
  · rw [if_pos h, go, if_pos h]
  · rw [if_neg h, go, go, if_neg h, if_neg h]

theorem go_plain (hs : SepOk sep) (f : Field) (hf : f.all (isText sep) = true) {k : List Nat} (hk : FieldEnd sep k) :
    go sep .unq (f ++ k) = (afterField sep k).map (pushField f) ∧
    go sep .fieldStart (f ++ k) = (afterField sep k).map (pushField f) := by
  induction f with
  | nil => simp [go_fieldEnd hs hk, map_pushField_nil]
  | cons c f ih =>
    simp only [List.all_cons, Bool.and_eq_true] at hf
    obtain ⟨hc, hf⟩ := hf
    obtain ⟨c1, c2, c3, c4⟩ := isText_iff.mp hc
    have ih := (ih hf).1
    simp [go, c1, c2, c3, c4, ih, map_pushField_cons]

theorem go_quoted_body (f : Field) (k : List Nat) :
    go sep .quoted (escape f ++ 34 :: k) = (go sep .afterQuote k).map (pushField f) := by
  induction f with
  | nil => simp [escape, go, map_pushField_nil]
  | cons c f ih =>
    by_cases hc : c = 34
    · subst hc
      simp [escape, go, ih, map_pushField_cons]
    · simp [escape, hc, go, ih, map_pushField_cons]

theorem go_field (hs : SepOk sep) {f : Field} {s : List Nat} (h : FieldR sep f s) {k : List Nat} (hk : FieldEnd sep k) :
    go sep .fieldStart (s ++ k) = (afterField sep k).map (pushField f) := by
  cases h with
  | plain hf => exact (go_plain hs f hf hk).2
  | quoted =>
    simp only [List.cons_append, List.append_assoc, List.nil_append]
    rw [go_fieldStart_cons, if_pos rfl, go_quoted_body, (go_fieldEnd hs hk).2.2]

/-- the records that follow a record terminated by `k` -/
def restTable (sep : Nat) : List Nat → Option Table
  | [] => some []
  | 10 :: t => go sep .recStart t
  | 13 :: 10 :: t => go sep .recStart t
  | _ => none

theorem afterField_eol (hs : SepOk sep) {k : List Nat} (h : LineEnd k) :
    afterField sep k = (restTable sep k).map newRecord := by
  obtain ⟨h1, h2, h3⟩ := hs
  cases h
  · simp [afterField, restTable, newRecord]
  · rename_i r
    have : (10 : Nat) ≠ sep := fun h => h3 h.symm
    simp [afterField, restTable, this]
  · rename_i r
    have : (13 : Nat) ≠ sep := fun h => h2 h.symm
    simp [afterField, restTable, this, go]

theorem go_record (hs : SepOk sep) {r : Record} {s : List Nat} (h : RecordR sep r s) {k : List Nat} (hk : LineEnd k) :
    go sep .fieldStart (s ++ k) = (restTable sep k).map (fun T => r :: T) := by
  induction h with
  | one hf =>
    rw [go_field hs hf hk.fieldEnd, afterField_eol hs hk, Option.map_map]
    congr 1
    funext T
    simp [newRecord, pushField_head]
  | @cons f s fs t hf hne _ ih =>
    rw [List.append_assoc, List.cons_append, go_field hs hf (FieldEnd.sep _)]
    have : afterField sep (sep :: (t ++ k)) = (go sep .fieldStart (t ++ k)).map newField := by simp [afterField]
    rw [this, ih, Option.map_map, Option.map_map]
    congr 1
    funext T
    simp [newField, pushField_head]

theorem parse_of_renders (hs : SepOk sep) {t : Table} {txt : List Nat} (h : Renders sep t txt) :
    parse sep txt = some t := by
  unfold parse
  induction h with
  | nil => simp [go]
  | @last r s hr hne =>
    rw [go_recStart_ne_nil hne]
    have := go_record hs hr LineEnd.nil
    simpa [restTable] using this
  | @cons r s e rs t hr he _ ih =>
    have hne : s ++ (e ++ t) ≠ [] := by cases he <;> simp
    rw [go_recStart_ne_nil hne]
    cases he with
    | crlf =>
      have := go_record hs hr (LineEnd.crlf t)
      simp only [List.cons_append, List.nil_append] at this ⊢
      rw [this]; simp [restTable, ih]
    | lf =>
      have := go_record hs hr (LineEnd.lf t)
      simp only [List.cons_append, List.nil_append] at this ⊢
      rw [this]; simp [restTable, ih]

theorem renderField_fieldR (f : Field) : FieldR sep f (renderField sep f) := by
  unfold renderField
  split
  · exact FieldR.plain f ‹_›
  · exact FieldR.quoted f

theorem renderRecord_recordR : ∀ (r : Record), r ≠ [] → RecordR sep r (renderRecord sep r)
  | [], h => absurd rfl h
  | [f], _ => RecordR.one (renderField_fieldR f)
  | f :: g :: fs, _ => by
    have := renderRecord_recordR (g :: fs) (by simp)
    simpa [renderRecord] using RecordR.cons (renderField_fieldR f) (by simp) this

theorem render_renders : ∀ (t : Table), (∀ r ∈ t, r ≠ []) → Renders sep t (render sep t)
  | [], _ => Renders.nil
  | r :: rs, h => by
    have h1 := renderRecord_recordR (sep := sep) r (h r (by simp))
    have h2 := render_renders rs (fun r' hr' => h r' (by simp [hr']))
    exact Renders.cons h1 EolR.crlf h2

theorem renderRecord_cons (sep : Nat) (v : List Nat) (vs : List (List Nat)) :
    renderRecord sep (v :: vs) = renderField sep v ++ vs.flatMap (fun x => sep :: renderField sep x) := by
  induction vs generalizing v with
  | nil => simp [renderRecord]
  | cons w ws ih => rw [renderRecord, ih]; simp; simp

theorem render_append (sep : Nat) (t u : Table) : render sep (t ++ u) = render sep t ++ render sep u := by
  induction t with
  | nil => rfl
  | cons r t ih => simp only [List.cons_append, render, ih, List.append_assoc]

theorem parse_render (hs : SepOk sep) (t : Table) (h : ∀ r ∈ t, r ≠ []) : parse sep (render sep t) = some t :=
  parse_of_renders hs (render_renders t h)

end BSVerif.Csv.Spec
