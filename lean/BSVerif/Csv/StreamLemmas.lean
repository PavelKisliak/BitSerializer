/-
  The line scanner of the stream reader: it computes the string reader's scanner on the logical
  text (decoded buffer followed by what the encoded reader still holds), however the text is cut
  into chunks; hence it refines the abstract line scanner.
-/
import BSVerif.Csv.ScanLemmas
import BSVerif.Csv.StreamReader

namespace BSVerif.Csv.Stream
open BSVerif.Csv BSVerif.Csv.Abs BSVerif.Csv.Reader BSVerif.Csv.Spec

/-- invariant of the encoded reader: eofbit only after everything was read; a real chunk size -/
def EncOk (e : Enc) : Prop := (e.eof = true → e.rest = []) ∧ 1 ≤ e.chunk

theorem EncOk.readNext {e : Enc} (h : EncOk e) : EncOk e.readNext.2 := by
  refine ⟨fun heof => ?_, h.2⟩
  simp only [Enc.readNext, Bool.or_eq_true, decide_eq_true_eq, List.length_take] at heof ⊢
  rcases heof with h1 | h1
  · rw [h.1 h1, List.drop_nil]
  · exact List.drop_eq_nil_iff.mpr (by omega)

theorem isEnd_logical {e : Enc} (hok : EncOk e) (h : e.isEnd = true) : e.logical = [] := by
  have : e.pending = [] ∧ e.eof = true := by simpa [Enc.isEnd, List.isEmpty_iff] using h
  simp [Enc.logical, this.1, hok.1 this.2]

theorem init_logical (chunk : Nat) (bytes : List Nat) : (Enc.init chunk bytes).logical = bytes := by
  simp [Enc.init, Enc.readNext, Enc.logical]

theorem init_ok (chunk : Nat) (hc : 1 ≤ chunk) (bytes : List Nat) : EncOk (Enc.init chunk bytes) :=
  EncOk.readNext (e := { pending := [], rest := bytes, eof := false, chunk := chunk }) ⟨fun h => (by cases h), hc⟩

theorem init_lazy (chunk : Nat) (hc : 1 ≤ chunk) (bytes : List Nat) (h : (Enc.init chunk bytes).logical = []) :
    (Enc.init chunk bytes).isEnd = true := by
  rw [init_logical] at h
  subst h
  simp [Enc.init, Enc.readNext, Enc.isEnd]; omega

theorem readChunk_ok {e e' : Enc} {buf buf' : List Nat} {r : ReadResult} (hok : EncOk e) (h : e.readChunk buf = (r, e', buf')) :
    EncOk e' := by
  rw [Enc.readChunk_eq] at h
  split at h
  · cases h; exact hok
  · split at h <;> cases h <;> exact hok.readNext

theorem readChunk_endFile {e e' : Enc} {buf buf' : List Nat} (h : e.readChunk buf = (.endFile, e', buf')) :
    buf' = buf ∧ (EncOk e → e.logical = [] ∧ e'.logical = [] ∧ e'.isEnd = true) := by
  rw [Enc.readChunk_eq] at h
  split at h
  · rename_i hend
    cases h
    exact ⟨rfl, fun hok => ⟨isEnd_logical hok hend, isEnd_logical hok hend, hend⟩⟩
  · split at h
    · rename_i hpe
      cases h
      refine ⟨rfl, fun hok => ?_⟩
      obtain ⟨hp0, ht⟩ := List.append_eq_nil_iff.mp (show e.pending ++ e.rest.take (e.chunk - e.pending.length) = [] from hpe)
      have hr : e.rest = [] := by
        rw [hp0, List.take_eq_nil_iff] at ht
        exact ht.resolve_left (by have := hok.2; simp only [List.length_nil]; omega)
      have hl : e.logical = [] := by simp [Enc.logical, hp0, hr]
      refine ⟨hl, by rw [Enc.readNext_logical, hl], ?_⟩
      have := hok.2
      simp only [Enc.isEnd, hpe, List.isEmpty_nil, Bool.true_and]
      simp [Enc.readNext, hr, hp0]; omega
    · cases h

theorem scanLineS_eq_scanLine (sep : Nat) (e : Enc) (buf : List Nat) (pos start dq : Nat) (cr : Option Nat)
    (hok : EncOk e) :
    ∃ app e', scanLineS sep e buf pos start dq cr
        = ((scanLine sep (buf ++ e.logical).length ((buf ++ e.logical).drop pos) pos start dq cr).1, e', buf ++ app,
           (scanLine sep (buf ++ e.logical).length ((buf ++ e.logical).drop pos) pos start dq cr).2) ∧
      e.logical = app ++ e'.logical ∧ EncOk e' := by
  -- the cases of `scanLineS`, in the order of its definition: buffer refilled, end of file, then on
  -- `buf[pos]` those of `ParseNextLine` as in `scanLine_abs` (quote, separator, CR, LF, last character, other)
  fun_induction scanLineS sep e buf pos start dq cr with
  | case1 e buf pos start dq cr hge e' buf' h ih =>
    obtain ⟨c, _, rfl, hl⟩ := readChunk_success h
    obtain ⟨app, e'', h1, h2, h3⟩ := ih (readChunk_ok hok h)
    rw [List.append_assoc, ← hl] at h1
    exact ⟨c ++ app, e'', by rw [h1, List.append_assoc], by rw [hl, h2, List.append_assoc], h3⟩
  | case2 e buf pos start dq cr hge e' buf' h =>
    obtain ⟨rfl, hE⟩ := readChunk_endFile h
    obtain ⟨h1, h2, _⟩ := hE hok
    refine ⟨[], e', ?_, by rw [h1, h2]; rfl, readChunk_ok hok h⟩
    rw [h1, List.append_nil, List.drop_eq_nil_iff.mpr hge, scanLine]
  | case3 e buf pos start dq cr hlt sym h34 ih =>
    rw [drop_append_of_lt (by omega), scanLine, if_pos h34]
    exact ih hok
  | case4 e buf pos start dq cr hlt sym h34 hsep ih =>
    obtain ⟨app, e', h1, h2⟩ := ih hok
    rw [drop_append_of_lt (by omega), scanLine, if_neg h34, if_pos hsep, h1]
    exact ⟨app, e', rfl, h2⟩
  | case5 e buf pos start dq cr hlt sym h34 hsep h13 ih =>
    rw [drop_append_of_lt (by omega), scanLine, if_neg h34, if_neg hsep, if_pos h13]
    exact ih hok
  | case6 e buf pos start dq cr hlt sym h34 hsep h13 h10 crp endV =>
    rw [drop_append_of_lt (by omega), scanLine, if_neg h34, if_neg hsep, if_neg h13, if_pos h10]
    exact ⟨[], e, by rw [List.append_nil]; rfl, rfl, hok⟩
  | case7 e buf pos start dq cr hlt sym h34 hsep h13 h10 heof =>
    rw [drop_append_of_lt (by omega), scanLine, if_neg h34, if_neg hsep, if_neg h13, if_neg h10, isEnd_logical hok heof.2,
      List.append_nil, List.drop_eq_nil_iff.mpr (by omega), scanLine, heof.1]
    exact ⟨[], e, by rw [List.append_nil], by rw [isEnd_logical hok heof.2]; rfl, hok⟩
  | case8 e buf pos start dq cr hlt sym h34 hsep h13 h10 heof ih =>
    rw [drop_append_of_lt (by omega), scanLine, if_neg h34, if_neg hsep, if_neg h13, if_neg h10]
    exact ih hok

/-- where the metas of a scanned line lie: inside `[start, final position)`, in order, without overlap -/
theorem scanLineS_spans (sep : Nat) (e : Enc) (buf : List Nat) (pos start dq : Nat) (cr : Option Nat)
    (hsp : start ≤ pos) (hpb : pos ≤ buf.length) (hcr : ∀ p, cr = some p → p < pos) :
    (∀ m ∈ (scanLineS sep e buf pos start dq cr).1, start ≤ m.off ∧ m.off + m.size ≤ (scanLineS sep e buf pos start dq cr).2.2.2) ∧
    (scanLineS sep e buf pos start dq cr).1.Pairwise (fun a b => a.off + a.size < b.off) ∧
    pos ≤ (scanLineS sep e buf pos start dq cr).2.2.2 ∧
    (scanLineS sep e buf pos start dq cr).2.2.2 ≤ (scanLineS sep e buf pos start dq cr).2.2.1.length := by
  -- the same eight cases as in `scanLineS_eq_scanLine`
  fun_induction scanLineS sep e buf pos start dq cr with
  | case1 e buf pos start dq cr hge e' buf' h ih =>
    obtain ⟨c, _, rfl, _⟩ := readChunk_success h
    exact ih hsp (by rw [List.length_append]; omega) hcr
  | case2 e buf pos start dq cr hge e' buf' h =>
    obtain ⟨rfl, _⟩ := readChunk_endFile h
    simp only [List.mem_singleton, forall_eq, List.pairwise_singleton, true_and]
    omega
  | case3 e buf pos start dq cr hlt sym h34 ih =>
    obtain ⟨a, b, c, d⟩ := ih (by omega) (by omega) (fun p h => by have := hcr p h; omega)
    exact ⟨a, b, by omega, d⟩
  | case4 e buf pos start dq cr hlt sym h34 hsep ih =>
    obtain ⟨a, b, c, d⟩ := ih (Nat.le_refl _) (by omega) (fun p h => by cases h)
    simp only [consMeta, List.mem_cons, forall_eq_or_imp, List.pairwise_cons]
    exact ⟨⟨by omega, fun m hm => ⟨by have := a m hm; omega, (a m hm).2⟩⟩, ⟨fun m hm => by have := a m hm; omega, b⟩, by omega, d⟩
  | case5 e buf pos start dq cr hlt sym h34 hsep h13 ih =>
    obtain ⟨a, b, c, d⟩ := ih (by omega) (by omega) (fun p h => by cases h; omega)
    exact ⟨a, b, by omega, d⟩
  | case6 e buf pos start dq cr hlt sym h34 hsep h13 h10 crp endV =>
    have hc : crp ≤ pos := by
      show cr.getD pos ≤ pos
      cases cr with
      | none => exact Nat.le_refl _
      | some p => exact Nat.le_of_lt (hcr p rfl)
    have : endV ≤ pos := by
      show (if h : crp = decWrap pos then crp else pos) ≤ pos
      split
      · exact hc
      · exact Nat.le_refl _
    simp only [List.mem_singleton, forall_eq, List.pairwise_singleton, true_and]
    omega
  | case7 e buf pos start dq cr hlt sym h34 hsep h13 h10 heof =>
    simp only [List.mem_singleton, forall_eq, List.pairwise_singleton, true_and]
    omega
  | case8 e buf pos start dq cr hlt sym h34 hsep h13 h10 heof ih =>
    obtain ⟨a, b, c, d⟩ := ih (by omega) (by omega) (fun p h => by have := hcr p h; omega)
    exact ⟨a, b, by omega, d⟩

/-- the state in which the scanner has just passed a CR outside quotes and the next character is LF.
    `absLine` started at that LF knows nothing of the CR (it recognises CR LF from the CR), so `ScanSpec`
    says apart what the scanner does here; a scan from the start of a line (`cr = none`) is never in it. -/
def Special (pos dq : Nat) (cr : Option Nat) (L : List Nat) : Prop :=
  cr = some (pos - 1) ∧ 1 ≤ pos ∧ L.head? = some 10 ∧ dq % 2 = 0

/-- what `scanLineS` computes, in terms of the abstract line scanner over the logical text `L`;
    `res` = (metas, encoded reader, decoded buffer, position), the result of `scanLineS` -/
def ScanSpec (sep : Nat) (e : Enc) (buf : List Nat) (pos start dq : Nat) (cr : Option Nat) (cur L : List Nat)
    (res : List Meta × Enc × List Nat × Nat) : Prop :=
  (∃ app, res.2.2.1 = buf ++ app ∧ e.logical = app ++ res.2.1.logical) ∧ EncOk res.2.1 ∧
  res.2.2.2 ≤ res.2.2.1.length ∧
  (Special pos dq cr L →
    res.1 = [⟨start, pos - 1 - start, dq != 0⟩] ∧ res.2.2.2 = pos + 1 ∧
    res.2.2.1.drop (pos + 1) ++ res.2.1.logical = L.tail) ∧
  (¬ Special pos dq cr L →
    view res.2.2.1 res.1 = prependCur cur (dq != 0) (absLine sep L (decide (dq % 2 = 1))).1 ∧
    pos ≤ res.2.2.2 ∧
    res.2.2.1.drop res.2.2.2 ++ res.2.1.logical = (absLine sep L (decide (dq % 2 = 1))).2 ∧
    (L ≠ [] → pos < res.2.2.2))

/-- Stated from any position within a line: `pre`, `cur`, `ahead` cut the buffer at `start` and at `pos`,
    so the text still to be scanned is `ahead ++ e.logical`. The readers start at the beginning of a line
    (`pre = cur = []`). -/
theorem scanLineS_abs (sep : Nat) (hs : SepOk sep) (e : Enc) (buf : List Nat) (pos start dq : Nat) (cr : Option Nat)
    (pre cur ahead : List Nat) (hok : EncOk e) (hbuf : buf = pre ++ cur ++ ahead) (hstart : start = pre.length)
    (hpos : pos = pre.length + cur.length) (hcr : ∀ p, cr = some p → p < pos) :
    ScanSpec sep e buf pos start dq cr cur (ahead ++ e.logical) (scanLineS sep e buf pos start dq cr) := by
  subst hbuf hstart hpos
  have hp : pre.length + cur.length ≤ (pre ++ cur ++ ahead).length := by
    simp only [List.length_append]; omega
  obtain ⟨hb, _, _, hle⟩ := scanLineS_spans sep e _ _ _ dq cr (Nat.le_add_right _ _) hp hcr
  obtain ⟨app, e', heq, hlog, hok'⟩ := scanLineS_eq_scanLine sep e (pre ++ cur ++ ahead) (pre.length + cur.length) pre.length dq cr hok
  -- the buffer that is left plus the text still to come is the rest of the logical text
  have hrest : ∀ n, pre.length + cur.length ≤ n → n ≤ (pre ++ cur ++ ahead ++ app).length →
      (pre ++ cur ++ ahead ++ app).drop n ++ e'.logical = (ahead ++ e.logical).drop (n - (pre.length + cur.length)) := by
    intro n h1 h2
    rw [← List.drop_append_of_le_length h2, List.append_assoc _ app, ← hlog, List.append_assoc (pre ++ cur), List.drop_append,
      List.drop_eq_nil_iff.mpr (by rw [List.length_append]; exact h1), List.length_append, List.nil_append]
  rw [List.append_assoc (pre ++ cur), ← List.length_append, List.drop_left, List.length_append] at heq
  have hT : pre ++ cur ++ ahead ++ app ++ e'.logical = pre ++ cur ++ (ahead ++ e.logical) := by
    rw [hlog]; simp only [List.append_assoc]
  rw [heq] at hb hle ⊢
  unfold ScanSpec
  dsimp only at hb hle ⊢
  generalize ahead ++ e.logical = L at *
  refine ⟨⟨app, rfl, hlog⟩, hok', hle, fun hsp => ?_, fun hsp => ?_⟩
  · obtain ⟨h1, h2, h3, h4⟩ := hsp
    cases L with
    | nil => cases h3
    | cons c L' =>
      obtain rfl : c = 10 := by simpa using h3
      rw [scanLine_lf hs.2.2 h4, if_pos ((crBefore_iff hcr).mpr ⟨h1, h2⟩), h1] at hle ⊢
      refine ⟨rfl, rfl, ?_⟩
      have := hrest _ (Nat.le_add_right _ 1) hle
      rwa [Nat.add_sub_cancel_left, List.drop_one] at this
  · obtain ⟨a1, a2, a3, a4⟩ := scanLine_abs sep hs L pre cur dq cr _ _ hcr
      (fun h1 h2 h3 => hsp ⟨h1, h2, h3.1, h3.2⟩) rfl
    refine ⟨?_, a2, ?_, a4⟩
    · rw [← a1, ← view_append_left (fun m hm => Nat.le_trans (hb m hm).2 hle) e'.logical, hT]
    · rw [← a3]; exact hrest _ a2 hle

end BSVerif.Csv.Stream
