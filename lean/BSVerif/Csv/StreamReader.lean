/-
  MODEL of `CCsvStreamReader` (src/csv/csv_readers.cpp, after the fixes "end pointer of
  ReadValue(key) without the offset" and "quoted value read twice") on top of
  `Convert::Utf::CEncodedStreamReader<char, ChunkSize>` (convert_utf.h) for a UTF-8 stream without
  BOM: the decoded text arrives in chunks of `chunk` code units that are appended to
  `mDecodedBuffer`; `ParseNextLine` first erases the consumed prefix `[0, mCurrentPos)`.

  ASSUMED about the layer below (belongs to C13): `DetectEncoding` of the first chunk answers
  UTF-8 with no BOM (true when the first chunk has no NUL byte and does not start with a BOM);
  `std::istream::read` delivers `min(n, remaining)` bytes and sets eofbit iff fewer than `n` arrived.

  The theorems in this file are those the termination proof of `scanLineS` rests on.
-/
import BSVerif.Csv.Reader

namespace BSVerif.Csv.Stream
open BSVerif.Csv BSVerif.Csv.Reader

/-- state of `CEncodedStreamReader<char, chunk>` over a UTF-8 stream -/
structure Enc where
  pending : List Nat     -- [mStartDataPtr, mEndDataPtr): read from the stream, not yet handed out
  rest : List Nat        -- bytes still in the std::istream
  eof : Bool             -- mInputStream.eof()
  chunk : Nat            -- ChunkSize
  deriving Repr, DecidableEq

inductive ReadResult where
  | success | endFile
  deriving DecidableEq, Repr

namespace Enc

/-- `IsEnd()` -/
def isEnd (e : Enc) : Bool := e.pending.isEmpty && e.eof

/-- `ReadNextEncodedChunk()`: fill the encoded buffer up; returns `lastReadSize != 0` -/
def readNext (e : Enc) : Bool × Enc :=
  let k := e.chunk - e.pending.length
  let got := e.rest.take k
  (got.length != 0, { e with pending := e.pending ++ got, rest := e.rest.drop k, eof := e.eof || decide (got.length < k) })

/-- constructor: reads the first chunk (encoding detection is assumed to answer UTF-8, no BOM) -/
def init (chunk : Nat) (bytes : List Nat) : Enc :=
  (readNext { pending := [], rest := bytes, eof := false, chunk := chunk }).2

/-- `ReadChunk(outStr)` for `char` output from UTF-8: appends the raw bytes -/
def readChunk (e : Enc) (buf : List Nat) : ReadResult × Enc × List Nat :=
  if e.isEnd then (.endFile, e, buf)
  else
    let (got, e1) := e.readNext
    if !got && e1.pending.isEmpty then (.endFile, e1, buf)
    else (.success, { e1 with pending := [] }, buf ++ e1.pending)

/-- the text that is still to come -/
def logical (e : Enc) : List Nat := e.pending ++ e.rest

theorem readNext_logical (e : Enc) : e.readNext.2.logical = e.logical := by
  simp [readNext, logical]

/-- `ReadChunk` without the tuple pattern: the refill delivered nothing and left nothing to hand out
    exactly when the encoded buffer is empty after it -/
theorem readChunk_eq (e : Enc) (buf : List Nat) :
    e.readChunk buf =
      if e.isEnd then (.endFile, e, buf)
      else if e.readNext.2.pending = [] then (.endFile, e.readNext.2, buf)
      else (.success, { e.readNext.2 with pending := [] }, buf ++ e.readNext.2.pending) := by
  have h : (!e.readNext.1 && e.readNext.2.pending.isEmpty) = true ↔ e.readNext.2.pending = [] := by
    simp [readNext]
  unfold readChunk
  split
  · rfl
  · simp only [h]

end Enc

theorem readChunk_success {e e' : Enc} {buf buf' : List Nat} (h : e.readChunk buf = (.success, e', buf')) :
    ∃ c, c ≠ [] ∧ buf' = buf ++ c ∧ e.logical = c ++ e'.logical := by
  rw [Enc.readChunk_eq] at h
  split at h
  · cases h
  · split at h
    · cases h
    · rename_i hne
      injection h with _ h; injection h with h1 h2
      subst h1 h2
      exact ⟨_, hne, rfl, e.readNext_logical.symm⟩

/-- measure of the scanning loop: every step either consumes a character or refills an exhausted buffer -/
def scanMeasure (e : Enc) (buf : List Nat) (pos : Nat) : Nat :=
  2 * (e.pending.length + e.rest.length) + 2 * (buf.length - pos) + (if pos ≥ buf.length then 1 else 0)

theorem scanMeasure_refill {e e' : Enc} {buf buf' : List Nat} {pos : Nat}
    (h : e.readChunk buf = (.success, e', buf')) (hp : pos ≥ buf.length) :
    scanMeasure e' buf' pos < scanMeasure e buf pos := by
  obtain ⟨c, hc, hb, hl⟩ := readChunk_success h
  have hlen : e.pending.length + e.rest.length = c.length + (e'.pending.length + e'.rest.length) := by
    have := congrArg List.length hl
    simpa [Enc.logical, List.length_append] using this
  have hcpos : 0 < c.length := List.length_pos_iff.mpr hc
  unfold scanMeasure
  subst hb
  simp only [List.length_append]
  split <;> (try split) <;> omega

/-- The two nested loops of `CCsvStreamReader::ParseNextLine`, flattened (same parameters as
    `Reader.scanLine`, plus the encoded reader and the growing decoded buffer).
    Result: metas, reader, buffer, `mCurrentPos`. (`pos ≤ buf.length` always holds; the model treats
    `pos > buf.length` like `pos == buf.length`.) -/
def scanLineS (sep : Nat) (e : Enc) (buf : List Nat) (pos start dq : Nat) (cr : Option Nat) :
    List Meta × Enc × List Nat × Nat :=
  if hp : pos ≥ buf.length then
    match h : e.readChunk buf with
    | (.success, e', buf') => scanLineS sep e' buf' pos start dq cr          -- `continue`
    | (.endFile, e', buf') => ([⟨start, buf'.length - start, dq != 0⟩], e', buf', pos)
  else
    let sym := buf[pos]
    if sym = 34 then scanLineS sep e buf (pos + 1) start (dq + 1) cr
    else if sym = sep ∧ dq % 2 = 0 then
      consMeta ⟨start, pos - start, dq != 0⟩ (scanLineS sep e buf (pos + 1) (pos + 1) 0 none)
    else if sym = 13 then scanLineS sep e buf (pos + 1) start dq (some pos)
    else if sym = 10 ∧ dq % 2 = 0 then
      let crp := cr.getD pos
      let endV := if crp = decWrap pos then crp else pos
      ([⟨start, endV - start, dq != 0⟩], e, buf, pos + 1)
    else if pos + 1 = buf.length ∧ e.isEnd then
      -- "End of file": endValuePos = mCurrentPos = mDecodedBuffer.size()
      ([⟨start, buf.length - start, dq != 0⟩], e, buf, buf.length)
    else scanLineS sep e buf (pos + 1) start dq cr
termination_by scanMeasure e buf pos
decreasing_by
  · exact scanMeasure_refill h hp
  all_goals (unfold scanMeasure; split <;> (try split) <;> omega)

/-- `CCsvStreamReader::UnescapeValue(beginIt, endIt)` on `[off, off + size)` of the buffer:
    the decoded value and the buffer after decoding "to the same buffer" -/
def unescapeInPlace (buf : List Nat) (off size : Nat) : Except Err (List Nat × List Nat) :=
  if buf.getD off 0 ≠ 34 then .error .parsing
  else if size < 2 ∨ buf.getD (off + size - 1) 0 ≠ 34 then .error .parsing
  else
    let v := unescLoop (slice buf (off + 1) (size - 2)) 0
    .ok (v, buf.take off ++ v ++ buf.drop (off + v.length))

structure StreamReader where
  enc : Enc
  buf : List Nat := []          -- mDecodedBuffer
  withHeader : Bool
  sep : Nat
  headers : List (List Nat) := []
  metas : List Meta := []
  curPos : Nat := 0
  lineNumber : Nat := 0
  rowIndex : Nat := 0
  valueIndex : Nat := 0
  prevValuesCount : Nat := 0
  deriving Repr, DecidableEq

namespace StreamReader

def isEnd (rd : StreamReader) : Bool := rd.curPos ≥ rd.buf.length && rd.enc.isEnd

def parseNextLine (rd : StreamReader) : Bool × StreamReader :=
  if rd.isEnd then (false, rd)
  else
    -- erase the parsed part
    let buf0 := if rd.curPos ≠ 0 then rd.buf.drop rd.curPos else rd.buf
    let (metas, e, buf, pos) := scanLineS rd.sep rd.enc buf0 0 0 0 none
    -- "When entire buffer has been parsed, need to read next chunk for detect end of file"
    let (e, buf) := if pos = buf.length then ((e.readChunk buf).2.1, (e.readChunk buf).2.2) else (e, buf)
    (!metas.isEmpty, { rd with lineNumber := rd.lineNumber + 1, prevValuesCount := rd.metas.length, metas := metas,
                               enc := e, buf := buf, curPos := pos })

/-- read the cell `i`: the value, and the reader with the buffer / meta updated by in-place unescaping -/
def cellValue (rd : StreamReader) (i : Nat) (m : Meta) : Except Err (List Nat × StreamReader) :=
  if m.esc then
    match unescapeInPlace rd.buf m.off m.size with
    | .error e => .error e
    | .ok (v, buf) => .ok (v, { rd with buf := buf, metas := rd.metas.set i ⟨m.off, v.length, false⟩ })
  else .ok (slice rd.buf m.off m.size, rd)

def readValueIdx (rd : StreamReader) : Except Err (List Nat × StreamReader) :=
  match rd.metas[rd.valueIndex]? with
  | some m => do
    let (v, rd) ← rd.cellValue rd.valueIndex m
    pure (v, { rd with valueIndex := rd.valueIndex + 1 })
  | none => .error .serOutOfRange

def readValueKey (rd : StreamReader) (key : List Nat) : Except Err (Option (List Nat) × StreamReader) :=
  if !rd.withHeader then .ok (none, rd)
  else
    let (vi, found) := resolveKey rd.headers rd.valueIndex key
    let rd := { rd with valueIndex := vi }
    if !found then .ok (none, rd)
    else match rd.metas[vi]? with
      | none => .error .stdOutOfRange
      | some m => do
        let (v, rd) ← rd.cellValue vi m
        pure (some v, rd)

def parseNextRow (rd : StreamReader) : Except Err (Bool × StreamReader) :=
  let (more, rd) := rd.parseNextLine
  if more then
    if rd.withHeader ∧ rd.headers.length ≠ rd.metas.length then .error .parsing
    else if ¬ rd.withHeader ∧ rd.lineNumber ≥ 2 ∧ rd.prevValuesCount ≠ rd.metas.length then .error .parsing
    else
      let firstDataRow := rd.lineNumber = (if rd.withHeader then 2 else 1)
      .ok (true, { rd with valueIndex := 0, rowIndex := if firstDataRow then rd.rowIndex else rd.rowIndex + 1 })
  else .ok (false, rd)

def readHeaders (rd : StreamReader) : Nat → Except Err (List (List Nat) × StreamReader)
  | 0 => .ok ([], rd)
  | n + 1 => do
    let (v, rd) ← rd.readValueIdx
    let (vs, rd) ← readHeaders rd n
    pure (v :: vs, rd)

/-- `CCsvStreamReader::CCsvStreamReader` -/
def create (chunk : Nat) (bytes : List Nat) (withHeader : Bool) (sep : Nat) : Except Err StreamReader :=
  let rd : StreamReader := { enc := Enc.init chunk bytes, withHeader := withHeader, sep := sep }
  if withHeader then
    let (more, rd) := rd.parseNextLine
    if more then do
      let (hs, rd) ← rd.readHeaders rd.metas.length
      pure { rd with headers := hs }
    else .error .parsing
  else .ok rd

def runScript (rd : StreamReader) : List Req → Except Err (List Cell × StreamReader)
  | [] => .ok ([], rd)
  | .idx :: qs => do
    let (v, rd) ← rd.readValueIdx
    let (cs, rd) ← runScript rd qs
    pure (.val v :: cs, rd)
  | .key n :: qs => do
    let (v, rd) ← rd.readValueKey (keyOf rd.headers n)
    let (cs, rd) ← runScript rd qs
    pure ((match v with | some v => .val v | none => .notFound) :: cs, rd)
  | .lit k :: qs => do
    let (v, rd) ← rd.readValueKey k
    let (cs, rd) ← runScript rd qs
    pure ((match v with | some v => .val v | none => .notFound) :: cs, rd)

def loop (script : List Req) : Nat → StreamReader → Outcome
  | 0, rd => .ok rd.headers [] false rd.rowIndex
  | fuel + 1, rd =>
    if rd.isEnd then .ok rd.headers [] false rd.rowIndex
    else match rd.parseNextRow with
      | .error e => .err e 0
      | .ok (false, rd) => .ok rd.headers [] true rd.rowIndex
      | .ok (true, rd) =>
        match rd.runScript script with
        | .error e => .err e 0
        | .ok (cells, rd) => (loop script fuel rd).addRow cells

end StreamReader

/-- the whole `csv.read stream` op for chunk size `chunk` -/
def streamSession (chunk sep : Nat) (withHeader : Bool) (script : List Req) (txt : List Nat) : Outcome :=
  match StreamReader.create chunk txt withHeader sep with
  | .error e => .errCtor e
  | .ok rd => rd.loop script (txt.length + 1)

end BSVerif.Csv.Stream
