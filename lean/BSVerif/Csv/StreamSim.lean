/-
  In-place unescaping (`CCsvStreamReader::UnescapeValue`) agrees with the copying version and only
  touches the cell it decodes; simulation of the abstract reader by the stream-reader model.
-/
import BSVerif.Csv.StreamLemmas

namespace BSVerif.Csv.Stream
open BSVerif.Csv BSVerif.Csv.Abs BSVerif.Csv.Reader BSVerif.Csv.Spec

theorem unescLoop_length_le (l : List Nat) (dq : Nat) : (unescLoop l dq).length ≤ l.length := by
  fun_induction unescLoop l dq <;> simp only [List.length_cons, List.length_nil] <;> omega

/-- the buffer after writing `v` at `off` -/
def patch (buf : List Nat) (off : Nat) (v : List Nat) : List Nat := buf.take off ++ v ++ buf.drop (off + v.length)

section patch
variable {buf : List Nat} {off : Nat} {v : List Nat} (h : off + v.length ≤ buf.length)
include h

theorem patch_length : (patch buf off v).length = buf.length := by
  simp [patch]; omega

theorem patch_getElem?_out {i : Nat} (hi : i < off ∨ off + v.length ≤ i) : (patch buf off v)[i]? = buf[i]? := by
  unfold patch
  have hto : (buf.take off).length = off := by simp; omega
  rcases hi with hi | hi
  · rw [List.append_assoc, List.getElem?_append_left (by omega), List.getElem?_take_of_lt hi]
  · rw [List.getElem?_append_right (by simp; omega)]
    simp only [List.length_append, hto, List.getElem?_drop]
    congr 1; omega

theorem patch_getElem?_in {k : Nat} (hk : k < v.length) : (patch buf off v)[off + k]? = v[k]? := by
  unfold patch
  have hto : (buf.take off).length = off := by simp; omega
  rw [List.getElem?_append_left (by simp; omega), List.getElem?_append_right (by omega)]
  simp [hto]

theorem slice_patch_self : slice (patch buf off v) off v.length = v := by
  apply List.ext_getElem?
  intro k
  rw [slice_getElem?]
  split
  · exact patch_getElem?_in h ‹_›
  · rw [List.getElem?_eq_none (by omega)]

theorem slice_patch_other {o s : Nat} (hd : o + s ≤ off ∨ off + v.length ≤ o) : slice (patch buf off v) o s = slice buf o s :=
  slice_congr fun i h1 h2 => patch_getElem?_out h (by omega)

theorem drop_patch {n : Nat} (hn : off + v.length ≤ n) : (patch buf off v).drop n = buf.drop n := by
  apply List.ext_getElem?
  intro k
  rw [List.getElem?_drop, List.getElem?_drop]
  exact patch_getElem?_out h (by omega)

end patch

theorem unescapeInPlace_spec (buf : List Nat) (off size : Nat) (h : off + size ≤ buf.length) :
    (unescapeInPlace buf off size = .error .parsing ∧ unescapeCopy (slice buf off size) = .error .parsing) ∨
    (∃ v, unescapeInPlace buf off size = .ok (v, patch buf off v) ∧ unescapeCopy (slice buf off size) = .ok v ∧ v.length + 2 ≤ size) := by
  have hlen := slice_length h
  unfold unescapeInPlace unescapeCopy
  by_cases hs : size < 2
  · refine Or.inl ⟨?_, ?_⟩
    · split
      · rfl
      · exact if_pos (Or.inl hs)
    · split
      · rfl
      · exact if_pos (Or.inl (by omega))
  · have hhead : (slice buf off size).head? = some (buf.getD off 0) := by
      rw [List.head?_eq_getElem?, slice_getElem?, if_pos (by omega), Nat.add_zero,
        List.getD_eq_getElem?_getD, List.getElem?_eq_getElem (by omega)]; rfl
    have hlast : (slice buf off size).getLast? = some (buf.getD (off + size - 1) 0) := by
      rw [List.getLast?_eq_getElem?, hlen, slice_getElem?, if_pos (by omega), show off + (size - 1) = off + size - 1 by omega,
        List.getD_eq_getElem?_getD, List.getElem?_eq_getElem (by omega)]; rfl
    have hne : (slice buf off size).isEmpty = false := by
      rw [List.isEmpty_eq_false_iff, ← List.length_pos_iff, hlen]; omega
    have hinner : ((slice buf off size).drop 1).take (size - 2) = slice buf (off + 1) (size - 2) :=
      slice_slice buf (by omega)
    simp only [hhead, hlast, hlen, hne, hinner, Bool.false_eq_true, false_or, ne_eq, Option.some.injEq]
    by_cases h1 : ¬ buf.getD off 0 = 34
    · exact Or.inl ⟨if_pos h1, if_pos h1⟩
    · rw [if_neg h1, if_neg h1]
      by_cases h2 : size < 2 ∨ ¬ buf.getD (off + size - 1) 0 = 34
      · exact Or.inl ⟨if_pos h2, if_pos h2⟩
      · have hv := unescLoop_length_le (slice buf (off + 1) (size - 2)) 0
        rw [slice_length (by omega)] at hv
        exact Or.inr ⟨_, if_neg h2, if_neg h2, by omega⟩

/-- the stream reader `s` represents the abstract reader `a`. `lzy`: with the buffer used up and nothing to
    come the encoded reader has already noticed the end (the trailing `ReadChunk` of `ParseNextLine`), so the
    two `isEnd` agree. `vals`: the cells agree in their values only, since unescaping in place overwrites
    the text of a cell; `bounds`, `disj`: the cells lie in the consumed part of the buffer and apart from one
    another, so that doing so changes neither another cell nor the text still to be read. -/
structure SimS (s : StreamReader) (a : AbsReader) : Prop where
  rem : a.rem = s.buf.drop s.curPos ++ s.enc.logical
  pos : s.curPos ≤ s.buf.length
  enc : EncOk s.enc
  lzy : s.curPos ≥ s.buf.length → s.enc.logical = [] → s.enc.isEnd = true
  vals : s.metas.map (cellValueOf s.buf) = a.cells.map cellValue
  bounds : ∀ m ∈ s.metas, m.off + m.size ≤ s.curPos
  disj : s.metas.Pairwise (fun x y => x.off + x.size < y.off)
  wh : s.withHeader = a.withHeader
  sep : s.sep = a.sep
  hdr : s.headers = a.headers
  ln : s.lineNumber = a.lineNumber
  ri : s.rowIndex = a.rowIndex
  vi : s.valueIndex = a.valueIndex
  pv : s.prevValuesCount = a.prevValuesCount

theorem SimS.len {s : StreamReader} {a : AbsReader} (h : SimS s a) : s.metas.length = a.cells.length := by
  have := congrArg List.length h.vals; simpa using this

theorem sim_isEnd {s : StreamReader} {a : AbsReader} (h : SimS s a) : s.isEnd = a.isEnd := by
  unfold StreamReader.isEnd AbsReader.isEnd
  rw [Bool.eq_iff_iff]
  simp only [Bool.and_eq_true, decide_eq_true_eq, List.isEmpty_iff, h.rem, List.append_eq_nil_iff, List.drop_eq_nil_iff]
  constructor
  · rintro ⟨h1, h2⟩; exact ⟨h1, isEnd_logical h.enc h2⟩
  · rintro ⟨h1, h2⟩; exact ⟨h1, h.lzy h1 h2⟩

theorem cellValueOf_view (buf : List Nat) (m : Meta) : cellValueOf buf m = cellValue ⟨slice buf m.off m.size, m.esc⟩ := rfl

theorem cellValueOf_congr {a b : List Nat} {m : Meta} (h : slice a m.off m.size = slice b m.off m.size) :
    cellValueOf a m = cellValueOf b m := by
  unfold cellValueOf; rw [h]

/-- the trailing `ReadChunk` of `ParseNextLine` ("for detect end of file") -/
def probe (e : Enc) (buf : List Nat) (np : Nat) : Enc × List Nat :=
  if np = buf.length then ((e.readChunk buf).2.1, (e.readChunk buf).2.2) else (e, buf)

/-- `ParseNextLine` when not at the end, with the tuple destructuring spelled out -/
theorem parseNextLine_eq (s : StreamReader) (h : s.isEnd = false) {ms : List Meta} {e : Enc} {b : List Nat} {np : Nat}
    (hr : scanLineS s.sep s.enc (s.buf.drop s.curPos) 0 0 0 none = (ms, e, b, np)) :
    s.parseNextLine =
      (!ms.isEmpty,
       { s with lineNumber := s.lineNumber + 1, prevValuesCount := s.metas.length, metas := ms,
                enc := (probe e b np).1, buf := (probe e b np).2, curPos := np }) := by
  have hb : (if s.curPos ≠ 0 then s.buf.drop s.curPos else s.buf) = s.buf.drop s.curPos := by
    split
    · rfl
    · rw [show s.curPos = 0 from Classical.not_not.mp ‹_›]; rfl
  unfold StreamReader.parseNextLine probe
  simp only [h, Bool.false_eq_true, if_false, hb, hr]

/-- it only extends the buffer, and afterwards an exhausted buffer with nothing to come means that the
    encoded reader knows it is at the end -/
theorem probe_spec {e : Enc} {buf : List Nat} {np : Nat} (hok : EncOk e) (hnp : np ≤ buf.length) :
    (∃ c, (probe e buf np).2 = buf ++ c ∧ e.logical = c ++ (probe e buf np).1.logical) ∧ EncOk (probe e buf np).1 ∧
    (np ≥ (probe e buf np).2.length → (probe e buf np).1.logical = [] → (probe e buf np).1.isEnd = true) := by
  unfold probe
  split
  · cases hrc : e.readChunk buf with
    | mk r p =>
      obtain ⟨e', buf'⟩ := p
      refine ⟨?_, readChunk_ok hok hrc, ?_⟩
      all_goals cases r
      · obtain ⟨c, _, rfl, hl⟩ := readChunk_success hrc
        exact ⟨c, rfl, hl⟩
      · obtain ⟨rfl, hE⟩ := readChunk_endFile hrc
        obtain ⟨h1, h2, _⟩ := hE hok
        exact ⟨[], (List.append_nil _).symm, by rw [h1, h2]; rfl⟩
      · obtain ⟨c, hc, rfl, _⟩ := readChunk_success hrc
        intro hge
        have := List.length_pos_iff.mpr hc
        simp only [List.length_append] at hge
        omega
      · exact fun _ _ => ((readChunk_endFile hrc).2 hok).2.2
  · exact ⟨⟨[], (List.append_nil _).symm, rfl⟩, hok, fun (h : np ≥ buf.length) => by omega⟩

theorem sim_parseNextLine {s : StreamReader} {a : AbsReader} (h : SimS s a) (hs : SepOk s.sep) :
    s.parseNextLine.1 = a.parseNextLine.1 ∧ SimS s.parseNextLine.2 a.parseNextLine.2 := by
  have hend : s.isEnd = a.rem.isEmpty := sim_isEnd h
  cases he : s.isEnd with
  | true =>
    simp only [StreamReader.parseNextLine, AbsReader.parseNextLine, he, ← hend, if_true]
    exact ⟨trivial, h⟩
  | false =>
    have hspec := scanLineS_abs s.sep hs s.enc (s.buf.drop s.curPos) 0 0 0 none [] [] _ h.enc rfl rfl rfl
      (fun p hp => by cases hp)
    have hspan := scanLineS_spans s.sep s.enc (s.buf.drop s.curPos) 0 0 0 none (Nat.le_refl _) (Nat.zero_le _)
      (fun p hp => by cases hp)
    cases hr : scanLineS s.sep s.enc (s.buf.drop s.curPos) 0 0 0 none with
    | mk ms p =>
      obtain ⟨e1, buf1, np⟩ := p
      rw [hr] at hspec hspan
      -- `h.rem` makes the logical text of `ScanSpec` the text `a.rem` that `a.parseNextLine` scans
      simp only [ScanSpec, ← h.rem, h.sep, Nat.zero_mod, Nat.zero_ne_one, decide_false, bne_self_eq_false,
        prependCur_nil] at hspec hspan
      obtain ⟨_, hok1, hnp, _, hn⟩ := hspec
      obtain ⟨hv, _, hrest, _⟩ := hn (fun hsp => by cases hsp.1)   -- not `Special`: `cr = none`
      obtain ⟨hb, hdis, _, _⟩ := hspan
      obtain ⟨⟨c, hc1, hc2⟩, hok2, hlzy⟩ := probe_spec hok1 hnp
      simp only [parseNextLine_eq s he hr, AbsReader.parseNextLine, ← hend, he, Bool.false_eq_true, if_false]
      generalize absLine a.sep a.rem false = al at hv hrest
      obtain ⟨cells, rest⟩ := al
      dsimp only at hv hrest ⊢
      subst hv hrest
      refine ⟨by rw [view, List.isEmpty_map], ?_⟩
      exact { h with
        rem := by dsimp only; rw [hc1, List.drop_append_of_le_length hnp, List.append_assoc, ← hc2]
        pos := by dsimp only; rw [hc1, List.length_append]; omega
        enc := hok2, lzy := hlzy
        vals := by
          dsimp only
          rw [← view_map_cellValue, hc1, view_append_left fun m hm => Nat.le_trans (hb m hm).2 hnp]
        bounds := fun m hm => (hb m hm).2, disj := hdis, ln := congrArg (· + 1) h.ln, pv := h.len }

theorem SimS.setIdx {s : StreamReader} {a : AbsReader} (h : SimS s a) (x : Nat) {y y' : Nat} (hy : y = y') :
    SimS { s with valueIndex := x, rowIndex := y } { a with valueIndex := x, rowIndex := y' } :=
  { h with ri := hy, vi := rfl }

/-- reading the cell `i`: unescaping in place rewrites only the bytes of that cell and shrinks its meta -/
theorem sim_cellValue {s : StreamReader} {a : AbsReader} (h : SimS s a) {i : Nat} {m : Meta} {c : RawCell}
    (hm : s.metas[i]? = some m) (hc : a.cells[i]? = some c) :
    (s.cellValue i m = .error .parsing ∧ cellValue c = .error .parsing) ∨
    (∃ v buf' metas', s.cellValue i m = .ok (v, { s with buf := buf', metas := metas' }) ∧ cellValue c = .ok v ∧
      SimS { s with buf := buf', metas := metas' } a) := by
  have hval : cellValueOf s.buf m = cellValue c := by
    have := congrArg (fun l => l[i]?) h.vals
    simpa only [List.getElem?_map, hm, hc, Option.map_some, Option.some.injEq] using this
  have hb := h.bounds m (List.mem_of_getElem? hm)
  have hbl : m.off + m.size ≤ s.buf.length := Nat.le_trans hb h.pos
  unfold StreamReader.cellValue
  by_cases hesc : m.esc = true
  · have hcopy : cellValue c = unescapeCopy (slice s.buf m.off m.size) := by rw [← hval, cellValueOf, if_pos hesc]
    rw [if_pos hesc]
    rcases unescapeInPlace_spec s.buf m.off m.size hbl with ⟨e1, e2⟩ | ⟨v, e1, e2, e3⟩
    · exact Or.inl ⟨by rw [e1], by rw [hcopy, e2]⟩
    · have hvl : m.off + v.length ≤ s.buf.length := by omega
      refine Or.inr ⟨v, _, _, by rw [e1], by rw [hcopy, e2], ?_⟩
      exact { h with
        rem := by dsimp only; rw [h.rem, drop_patch hvl (by omega)]
        pos := by dsimp only; rw [patch_length hvl]; exact h.pos
        lzy := by dsimp only; rw [patch_length hvl]; exact h.lzy
        vals := by
          dsimp only
          rw [← h.vals]
          apply List.ext_getElem?
          intro j
          rw [List.getElem?_map, List.getElem?_set, List.getElem?_map]
          by_cases hij : i = j
          · subst hij
            rw [if_pos rfl, if_pos (List.getElem?_eq_some_iff.mp hm).1, hm, Option.map_some, Option.map_some, hval, hcopy, e2]
            exact congrArg (some ∘ Except.ok) (slice_patch_self hvl)
          · rw [if_neg hij]
            cases hj : s.metas[j]? with
            | none => rfl
            | some mj =>
              have := rel_of_pairwise h.disj hm hj hij
              exact congrArg some (cellValueOf_congr (slice_patch_other hvl (by omega)))
        bounds := fun m' hm' => by
          rcases List.mem_or_eq_of_mem_set hm' with h1 | rfl
          · exact h.bounds m' h1
          · dsimp only; omega
        disj := pairwise_set h.disj hm (fun z hz => hz) (fun z hz => by dsimp only at hz ⊢; omega) }
  · rw [if_neg hesc]
    exact Or.inr ⟨_, s.buf, s.metas, rfl, by rw [← hval, cellValueOf, if_neg hesc], h⟩

/-- related results: the same error, or the same value and related readers -/
def RelRes {α : Type} : Except Err (α × StreamReader) → Except Err (α × AbsReader) → Prop
  | .error e, .error e' => e = e'
  | .ok (x, s), .ok (y, a) => x = y ∧ SimS s a
  | _, _ => False

theorem RelRes.cases {α : Type} {r1 : Except Err (α × StreamReader)} {r2 : Except Err (α × AbsReader)} (h : RelRes r1 r2) :
    (∃ e, r1 = .error e ∧ r2 = .error e) ∨ (∃ x s a, r1 = .ok (x, s) ∧ r2 = .ok (x, a) ∧ SimS s a) := by
  cases r1 with
  | error e1 =>
    cases r2 with
    | error e2 => exact Or.inl ⟨e1, rfl, congrArg _ (Eq.symm h)⟩
    | ok q2 => exact h.elim
  | ok q1 =>
    cases r2 with
    | error e2 => exact h.elim
    | ok q2 => exact Or.inr ⟨q1.1, q1.2, q2.2, rfl, by rw [h.1], h.2⟩

theorem RelRes.bind {α β : Type} {r1 : Except Err (α × StreamReader)} {r2 : Except Err (α × AbsReader)} (h : RelRes r1 r2)
    {k1 : α × StreamReader → Except Err (β × StreamReader)} {k2 : α × AbsReader → Except Err (β × AbsReader)}
    (hk : ∀ x s a, SimS s a → RelRes (k1 (x, s)) (k2 (x, a))) : RelRes (r1 >>= k1) (r2 >>= k2) := by
  rcases h.cases with ⟨e, rfl, rfl⟩ | ⟨x, s, a, rfl, rfl, hs⟩
  · exact rfl
  · exact hk x s a hs

theorem RelRes.ite {α : Type} {c : Prop} [Decidable c] {x1 y1 : Except Err (α × StreamReader)} {x2 y2 : Except Err (α × AbsReader)}
    (hx : RelRes x1 x2) (hy : RelRes y1 y2) : RelRes (if c then x1 else y1) (if c then x2 else y2) := by
  split
  · exact hx
  · exact hy

theorem SimS.cell {s : StreamReader} {a : AbsReader} (h : SimS s a) (i : Nat) :
    (s.metas[i]? = none ∧ a.cells[i]? = none) ∨ ∃ m c, s.metas[i]? = some m ∧ a.cells[i]? = some c := by
  by_cases hi : i < s.metas.length
  · exact Or.inr ⟨_, _, List.getElem?_eq_getElem hi, List.getElem?_eq_getElem (h.len ▸ hi)⟩
  · exact Or.inl ⟨List.getElem?_eq_none (by omega), List.getElem?_eq_none (by have := h.len; omega)⟩

theorem sim_readValueIdx {s : StreamReader} {a : AbsReader} (h : SimS s a) : RelRes s.readValueIdx a.readValueIdx := by
  unfold StreamReader.readValueIdx AbsReader.readValueIdx
  rw [← h.vi]
  rcases h.cell s.valueIndex with ⟨hm, hc⟩ | ⟨m, c, hm, hc⟩
  · rw [hm, hc]; exact rfl
  · rcases sim_cellValue h hm hc with ⟨e1, e2⟩ | ⟨v, buf', metas', e1, e2, hs'⟩
    · simp only [hm, hc, e1, e2]; exact rfl
    · simp only [hm, hc, e1, e2]
      exact ⟨rfl, h.vi ▸ hs'.setIdx (s.valueIndex + 1) hs'.ri⟩

/-- the abstract reader a stream reader represents, given the cells of the current row -/
abbrev StreamReader.toAbs (s : StreamReader) (cells : List RawCell) : AbsReader :=
  { rem := s.buf.drop s.curPos ++ s.enc.logical, withHeader := s.withHeader, sep := s.sep, headers := s.headers, cells := cells,
    lineNumber := s.lineNumber, rowIndex := s.rowIndex, valueIndex := s.valueIndex, prevValuesCount := s.prevValuesCount }

theorem SimS.exists_toAbs {s : StreamReader} {a : AbsReader} (h : SimS s a) : ∃ cells, a = s.toAbs cells := by
  refine ⟨a.cells, ?_⟩
  obtain ⟨rem, wh, sep, hdr, cells, ln, ri, vi, pv⟩ := a
  simp only [StreamReader.toAbs, AbsReader.mk.injEq]
  exact ⟨h.rem, h.wh.symm, h.sep.symm, h.hdr.symm, trivial, h.ln.symm, h.ri.symm, h.vi.symm, h.pv.symm⟩

theorem sim_readValueKey {s : StreamReader} {a : AbsReader} (h : SimS s a) (key : List Nat) :
    RelRes (s.readValueKey key) (a.readValueKey key) := by
  obtain ⟨cells, rfl⟩ := h.exists_toAbs
  unfold StreamReader.readValueKey AbsReader.readValueKey
  split
  · exact ⟨rfl, h⟩
  · generalize resolveKey s.headers s.valueIndex key = res
    obtain ⟨vi, found⟩ := res
    have h' := h.setIdx vi h.ri
    cases found with
    | false => exact ⟨rfl, h'⟩
    | true =>
      rcases h'.cell vi with ⟨hm, hc⟩ | ⟨m, c, hm, hc⟩
      · simp only [hm, hc]; exact rfl
      · rcases sim_cellValue h' hm hc with ⟨e1, e2⟩ | ⟨v, buf', metas', e1, e2, hs'⟩
        · simp only [hm, hc, e1, e2]; exact rfl
        · simp only [hm, hc, e1, e2]
          exact ⟨rfl, hs'⟩

theorem sim_parseNextRow {s : StreamReader} {a : AbsReader} (h : SimS s a) (hs : SepOk s.sep) :
    RelRes s.parseNextRow a.parseNextRow := by
  obtain ⟨h1, h2⟩ := sim_parseNextLine h hs
  unfold StreamReader.parseNextRow AbsReader.parseNextRow
  generalize s.parseNextLine = r1 at h1 h2
  generalize a.parseNextLine = r2 at h1 h2
  obtain ⟨more, s1⟩ := r1
  obtain ⟨more', a1⟩ := r2
  dsimp only at h1 h2 ⊢
  subst h1
  obtain ⟨cells, rfl⟩ := h2.exists_toAbs
  have hlen : s1.metas.length = cells.length := h2.len
  cases more with
  | false => exact ⟨rfl, h2⟩
  | true =>
    simp only [if_true, StreamReader.toAbs, hlen]
    exact .ite rfl (.ite rfl ⟨rfl, h2.setIdx 0 rfl⟩)

theorem sim_readHeaders {s : StreamReader} {a : AbsReader} (h : SimS s a) (n : Nat) :
    RelRes (s.readHeaders n) (a.readHeaders n) := by
  induction n generalizing s a with
  | zero => exact ⟨rfl, h⟩
  | succ n ih => exact (sim_readValueIdx h).bind fun v s1 a1 h1 => (ih h1).bind fun vs s2 a2 h2 => ⟨rfl, h2⟩

theorem sim_runScript (script : List Req) {s : StreamReader} {a : AbsReader} (h : SimS s a) :
    RelRes (s.runScript script) (a.runScript script) := by
  induction script generalizing s a with
  | nil => exact ⟨rfl, h⟩
  | cons q qs ih =>
    have lit : ∀ k, RelRes (s.runScript (.lit k :: qs)) (a.runScript (.lit k :: qs)) := fun k =>
      (sim_readValueKey h k).bind fun v s1 a1 h1 => (ih h1).bind fun cs s2 a2 h2 => ⟨rfl, h2⟩
    cases q with
    | idx => exact (sim_readValueIdx h).bind fun v s1 a1 h1 => (ih h1).bind fun cs s2 a2 h2 => ⟨rfl, h2⟩
    | key n =>
      show RelRes (s.runScript (.lit (keyOf s.headers n) :: qs)) _
      rw [h.hdr]; exact lit _
    | lit k => exact lit k

theorem sim_loop (script : List Req) (fuel : Nat) {s : StreamReader} {a : AbsReader} (h : SimS s a) (hs : SepOk a.sep) :
    s.loop script fuel = a.loop script fuel := by
  induction fuel generalizing s a with
  | zero => simp only [StreamReader.loop, AbsReader.loop, h.hdr, h.ri]
  | succ fuel ih =>
    simp only [StreamReader.loop, AbsReader.loop, sim_isEnd h]
    split
    · simp only [h.hdr, h.ri]
    · rcases (sim_parseNextRow h (h.sep ▸ hs)).cases with ⟨e, e1, e2⟩ | ⟨b, s1, a1, e1, e2, h1⟩
      · rw [e1, e2]
      · rw [e1, e2]
        have hs1 : SepOk a1.sep := AbsReader.parseNextRow_sep e2 ▸ hs
        cases b with
        | false => simp only [h1.hdr, h1.ri]
        | true =>
          rcases (sim_runScript script h1).cases with ⟨e, e3, e4⟩ | ⟨cs, s2, a2, e3, e4, h2⟩
          · simp only [e3, e4]
          · obtain ⟨vi, hv⟩ := AbsReader.runScript_state e4
            simp only [e3, e4]
            rw [ih h2 (by rw [hv]; exact hs1)]

theorem streamSession_eq_abs (chunk : Nat) (hc : 1 ≤ chunk) (sep : Nat) (hs : SepOk sep) (wh : Bool) (script : List Req) (txt : List Nat) :
    streamSession chunk sep wh script txt = absSession sep wh script txt := by
  have h0 : SimS ({ enc := Enc.init chunk txt, withHeader := wh, sep := sep } : StreamReader)
      ({ rem := txt, withHeader := wh, sep := sep } : AbsReader) :=
    { rem := by simp [init_logical], pos := Nat.le_refl _, enc := init_ok chunk hc txt,
      lzy := fun _ h => init_lazy chunk hc txt h, vals := rfl, bounds := fun m hm => (by cases hm), disj := List.Pairwise.nil,
      wh := rfl, sep := rfl, hdr := rfl, ln := rfl, ri := rfl, vi := rfl, pv := rfl }
  unfold streamSession absSession StreamReader.create AbsReader.create
  cases wh with
  | false => exact sim_loop script _ h0 hs
  | true =>
    simp only [if_true]
    obtain ⟨h1, h2⟩ := sim_parseNextLine h0 hs
    have hsep := AbsReader.parseNextLine_sep { rem := txt, withHeader := true, sep := sep }
    generalize ({ enc := Enc.init chunk txt, withHeader := true, sep := sep } : StreamReader).parseNextLine = r1 at h1 h2
    generalize ({ rem := txt, withHeader := true, sep := sep } : AbsReader).parseNextLine = r2 at h1 h2 hsep
    obtain ⟨more, s1⟩ := r1
    obtain ⟨more', a1⟩ := r2
    dsimp only at h1 h2 hsep ⊢
    subst h1
    cases more with
    | false => rfl
    | true =>
      simp only [if_true]
      rw [h2.len]
      rcases (sim_readHeaders h2 a1.cells.length).cases with ⟨e, e1, e2⟩ | ⟨hdr, s2, a2, e1, e2, h3⟩
      · rw [e1, e2]; rfl
      · obtain ⟨vi, rfl⟩ := AbsReader.readHeaders_state e2
        rw [e1, e2]
        exact sim_loop script _ { h3 with hdr := rfl } (hsep ▸ hs)
