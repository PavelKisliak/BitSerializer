/-
  Lemmas about the writer model: `WriteEscapedValue` appends the canonical RFC 4180 rendering of the
  value; the text of a whole document is the canonical rendering (`Spec.render`) of header + rows;
  the stream writer is the string writer with the header line held back (`StreamWriter.toStringWriter`).
-/
import BSVerif.Csv.Writer
import BSVerif.Csv.SpecLemmas

namespace BSVerif.Csv.Writer
open BSVerif.Csv BSVerif.Csv.Spec

theorem not_mustQuote (sep : Nat) : (fun c => !mustQuote sep c) = isText sep := by
  funext c
  simp only [mustQuote, isText, Bool.not_or, bne, Bool.and_assoc]
  rw [Bool.and_comm (!(c == 10))]

theorem copyEscaped_eq_escape (l : List Nat) : copyEscaped l = escape l := by
  induction l with
  | nil => rfl
  | cons c r ih => simp only [copyEscaped, escape, ih]

theorem isEmpty_dropWhile (p : Nat → Bool) (l : List Nat) : (l.dropWhile p).isEmpty = l.all p := by
  induction l with
  | nil => rfl
  | cons c r ih => cases h : p c <;> simp [h, ih]

theorem escape_takeWhile (sep : Nat) (v : List Nat) :
    v.takeWhile (isText sep) ++ escape (v.dropWhile (isText sep)) = escape v := by
  induction v with
  | nil => rfl
  | cons c r ih =>
    cases h : isText sep c
    · simp only [List.takeWhile_cons, List.dropWhile_cons, h, Bool.false_eq_true, if_false, List.nil_append]
    · simp only [List.takeWhile_cons, List.dropWhile_cons, h, if_true, List.cons_append, ih, escape,
        if_neg (isText_iff.mp h).1]

theorem writeEscapedValue_eq (sep : Nat) (v out : List Nat) : writeEscapedValue sep v out = out ++ renderField sep v := by
  unfold writeEscapedValue renderField
  simp only [not_mustQuote, isEmpty_dropWhile, copyEscaped_eq_escape]
  split
  · rfl
  · rw [← List.append_assoc (v.takeWhile _), escape_takeWhile]

/-- effect of the `WriteValue` calls of one row on `mCurrentRow` (and on the header line) -/
def joinFrom (sep : Nat) (vi : Nat) (cur : List Nat) : List (List Nat) → List Nat
  | [] => cur
  | v :: vs => joinFrom sep (vi + 1) ((if vi ≠ 0 then cur ++ [sep] else cur) ++ renderField sep v) vs

theorem joinFrom_succ (sep n : Nat) (cur : List Nat) (vs : List (List Nat)) :
    joinFrom sep (n + 1) cur vs = cur ++ vs.flatMap (fun x => sep :: renderField sep x) := by
  induction vs generalizing n cur with
  | nil => simp [joinFrom]
  | cons v vs ih => simp [joinFrom, ih]

theorem joinFrom_zero (sep : Nat) (vs : List (List Nat)) : joinFrom sep 0 [] vs = renderRecord sep vs := by
  cases vs with
  | nil => rfl
  | cons v vs => simp [joinFrom, joinFrom_succ, renderRecord_cons]

theorem foldl_writeValue (w : StringWriter) (row : List KV) :
    row.foldl (fun w kv => w.writeValue kv.1 kv.2) w =
      { w with out := if w.rowIndex = 0 ∧ w.withHeader then joinFrom w.sep w.valueIndex w.out (row.map (·.1)) else w.out,
               currentRow := joinFrom w.sep w.valueIndex w.currentRow (row.map (·.2)),
               valueIndex := w.valueIndex + row.length } := by
  induction row generalizing w with
  | nil => simp [joinFrom]
  | cons kv row ih =>
    rw [List.foldl_cons, ih]
    simp only [StringWriter.writeValue, writeEscapedValue_eq, List.map_cons, joinFrom, List.length_cons, StringWriter.mk.injEq,
      true_and, and_true]
    refine ⟨?_, by omega⟩
    split <;> rfl

theorem writeRow_later (w : StringWriter) (row : List KV) (h0 : w.rowIndex ≠ 0) (hv : w.valueIndex = 0) (hc : w.currentRow = []) :
    w.writeRow row =
      if row.length = w.prevValuesCount then
        .ok { w with out := w.out ++ (renderRecord w.sep (row.map (·.2)) ++ [13, 10]), rowIndex := w.rowIndex + 1,
                     valueIndex := 0, currentRow := [] }
      else .error .serOutOfRange := by
  unfold StringWriter.writeRow StringWriter.nextLine
  rw [foldl_writeValue]
  simp only [h0, false_and, if_false, hv, hc, Nat.zero_add, joinFrom_zero, List.append_assoc]
  split
  · rfl
  · rw [if_pos (Classical.not_not.mp ‹_›)]

theorem writeRows_later (w : StringWriter) (rows : List (List KV)) (h0 : w.rowIndex ≠ 0) (hv : w.valueIndex = 0)
    (hc : w.currentRow = []) :
    w.writeRows rows =
      if ∀ r ∈ rows, r.length = w.prevValuesCount then
        .ok { w with out := w.out ++ render w.sep (rows.map (·.map (·.2))), rowIndex := w.rowIndex + rows.length,
                     valueIndex := 0, currentRow := [] }
      else .error .serOutOfRange := by
  induction rows generalizing w with
  | nil =>
    obtain ⟨out, wh, sep, cur, ri, vi, pv⟩ := w
    dsimp only at hv hc
    subst hv hc
    simp [StringWriter.writeRows, render]
  | cons r rs ih =>
    rw [StringWriter.writeRows, writeRow_later w r h0 hv hc]
    simp only [List.forall_mem_cons]
    by_cases hr : r.length = w.prevValuesCount
    · simp only [hr, if_true, true_and]
      rw [ih _ (Nat.succ_ne_zero _) rfl rfl]
      simp only [List.map_cons, render, List.append_assoc, List.length_cons, Nat.add_assoc, Nat.add_comm 1]
    · simp only [hr, if_false, false_and]

theorem writeRow_first (sep : Nat) (wh : Bool) (row : List KV) :
    (StringWriter.mk [] wh sep [] 0 0 0).writeRow row =
      .ok { out := render sep ((if wh then [row.map (·.1)] else []) ++ [row.map (·.2)]), withHeader := wh, sep := sep,
            rowIndex := 1, prevValuesCount := row.length } := by
  unfold StringWriter.writeRow StringWriter.nextLine
  rw [foldl_writeValue]
  cases wh <;> simp [joinFrom_zero, render]

theorem saveString_spec (sep : Nat) (wh : Bool) (first : List KV) (rest : List (List KV)) :
    saveString sep wh (first :: rest) =
      if ∀ r ∈ rest, r.length = first.length then
        .ok (render sep ((if wh then [first.map (·.1)] else []) ++ (first :: rest).map (·.map (·.2))))
      else .error .serOutOfRange := by
  unfold saveString
  rw [StringWriter.writeRows, writeRow_first]
  dsimp only
  rw [writeRows_later _ rest (Nat.succ_ne_zero 0) rfl rfl]
  dsimp only
  by_cases h : ∀ r ∈ rest, r.length = first.length
  · simp only [if_pos h, ← render_append, List.map_cons, List.append_assoc, List.singleton_append]
  · simp only [if_neg h]

theorem nextLine_rowIndex {w w' : StringWriter} (h : w.nextLine = .ok w') : w'.rowIndex = w.rowIndex + 1 := by
  unfold StringWriter.nextLine at h
  split at h
  · cases h; rfl
  · split at h <;> cases h
    rfl

theorem writeRows_rowIndex {w w' : StringWriter} {rows : List (List KV)} (h : w.writeRows rows = .ok w') :
    w'.rowIndex = w.rowIndex + rows.length := by
  induction rows generalizing w with
  | nil => cases h; rfl
  | cons r rs ih =>
    unfold StringWriter.writeRows at h
    split at h
    · cases h
    · rename_i w1 h1
      rw [StringWriter.writeRow, foldl_writeValue] at h1
      rw [ih h, nextLine_rowIndex h1, List.length_cons]
      dsimp only
      omega

/-- The string writer a stream writer represents: what went to the stream so far, followed by the header
    line, which `CCsvStreamWriter` holds back in `mCsvHeader` until the first `NextLine`. -/
def StreamWriter.toStringWriter (s : StreamWriter) : StringWriter :=
  { out := s.stream ++ (if s.rowIndex = 0 ∧ s.withHeader then s.csvHeader else []), withHeader := s.withHeader, sep := s.sep,
    currentRow := s.currentRow, rowIndex := s.rowIndex, valueIndex := s.valueIndex, prevValuesCount := s.prevValuesCount }

namespace StreamWriter

theorem writeValue_toStringWriter (s : StreamWriter) (k v : List Nat) :
    (s.writeValue k v).toStringWriter = s.toStringWriter.writeValue k v := by
  unfold toStringWriter StringWriter.writeValue writeValue
  by_cases h : s.rowIndex = 0 ∧ s.withHeader = true
  · simp only [if_pos h, writeEscapedValue_eq, StringWriter.mk.injEq, and_true]
    split <;> simp only [List.append_assoc]
  · simp only [if_neg h]

theorem foldl_toStringWriter (s : StreamWriter) (row : List KV) :
    (row.foldl (fun w kv => w.writeValue kv.1 kv.2) s).toStringWriter
      = row.foldl (fun w kv => w.writeValue kv.1 kv.2) s.toStringWriter := by
  induction row generalizing s with
  | nil => rfl
  | cons kv row ih => rw [List.foldl_cons, ih, writeValue_toStringWriter, List.foldl_cons]

theorem nextLine_toStringWriter (s : StreamWriter) : s.nextLine.map toStringWriter = s.toStringWriter.nextLine := by
  unfold toStringWriter StringWriter.nextLine nextLine
  by_cases hr : s.rowIndex = 0
  · cases s.withHeader <;> simp [hr, Except.map]
  · simp only [if_neg hr]
    split
    · rfl
    · simp [Except.map, hr]

theorem writeRows_toStringWriter (s : StreamWriter) (rows : List (List KV)) :
    (s.writeRows rows).map toStringWriter = s.toStringWriter.writeRows rows := by
  induction rows generalizing s with
  | nil => rfl
  | cons r rs ih =>
    rw [writeRows, StringWriter.writeRows, StringWriter.writeRow, ← foldl_toStringWriter, ← nextLine_toStringWriter, writeRow]
    cases (r.foldl (fun w kv => w.writeValue kv.1 kv.2) s).nextLine with
    | error e => rfl
    | ok s' => exact ih s'

end StreamWriter

theorem saveStream_eq_saveString (sep : Nat) (wh : Bool) (rows : List (List KV)) :
    saveStream sep wh rows = saveString sep wh rows := by
  have h := StreamWriter.writeRows_toStringWriter (StreamWriter.mk [] wh sep [] [] 0 0 0) rows
  rw [show (StreamWriter.mk [] wh sep [] [] 0 0 0).toStringWriter = StringWriter.mk [] wh sep [] 0 0 0 by
    simp [StreamWriter.toStringWriter]] at h
  unfold saveStream saveString
  rw [← h]
  cases hs : (StreamWriter.mk [] wh sep [] [] 0 0 0).writeRows rows with
  | error e => rfl
  | ok s =>
    rw [hs] at h
    -- once a row is complete the header line has gone to the stream
    have hri : s.rowIndex = 0 + rows.length := writeRows_rowIndex h.symm
    cases rows with
    | nil => cases hs; simp [Except.map, StreamWriter.toStringWriter]
    | cons r rs =>
      have : s.rowIndex ≠ 0 := by rw [hri, List.length_cons]; omega
      simp [Except.map, StreamWriter.toStringWriter, this]

end BSVerif.Csv.Writer
