/-
  What the theorems of Props/C20.lean share about the scope-lifetime machine; and, in the namespace of `Csv/Archive.lean`, the
  CSV part of C20 (`C20.csv_deferred_save_eq`): the save session as the code runs it, which defers a row error to `Finalize()`
  and goes on, ends as the session of the C09 theorems, which stops at the first row error. One pair of lemmas for each of
  the two writer models.
-/
import BSVerif.Fault.Model
import BSVerif.Csv.Archive

namespace BSVerif.Fault

theorem noEscapingDtor_tail {i : Instr} {is : List Instr} (h : noEscapingDtor (i :: is)) : noEscapingDtor is :=
  fun d hd => h d (List.mem_cons_of_mem _ hd)

theorem unwind_ne_none (stack : List Dtor) (h : ∀ d ∈ stack, d.escapes = false) (dfr : Option Nat) :
    unwind stack dfr ≠ none := by
  fun_induction unwind stack dfr with
  | case1 dfr => nofun
  | case2 rest dfr ih => exact ih (List.forall_mem_cons.mp h).2
  | case3 e rest dfr ih => exact ih (List.forall_mem_cons.mp h).2
  | case4 e rest dfr => cases h _ (List.mem_cons_self ..)

theorem deferError_ne_none (dfr : Option Nat) (e : Nat) : deferError dfr e ≠ none := by
  cases dfr <;> nofun

end BSVerif.Fault

namespace BSVerif.Csv.Archive
open BSVerif.Csv.Writer

/-! The `match` on the left of the four statements below is `Finalize()` after the rows (the first deferred error is
rethrown, otherwise `f` reads the result off the writer), spelt as `saveStringDeferred` / `saveStreamDeferred` spell it, so
that `C20.csv_deferred_save_eq` follows by congruence under `validateSeparator sep >>= ·`. -/

theorem stringRows_deferred_some {β : Type} (f : StringWriter → β) (rows : List (List KV)) (w : StringWriter) (e : Err) :
    (match stringRowsDeferred w (some e) rows with
      | (_, some e) => Except.error e
      | (w', none) => .ok (f w')) = .error e := by
  induction rows generalizing w with
  | nil => rfl
  | cons r rs ih => rw [stringRowsDeferred]; cases (List.foldl (fun w kv => w.writeValue kv.1 kv.2) w r).nextLine <;> exact ih _

theorem streamRows_deferred_some {β : Type} (f : StreamWriter → β) (rows : List (List KV)) (w : StreamWriter) (e : Err) :
    (match streamRowsDeferred w (some e) rows with
      | (_, some e) => Except.error e
      | (w', none) => .ok (f w')) = .error e := by
  induction rows generalizing w with
  | nil => rfl
  | cons r rs ih => rw [streamRowsDeferred]; cases (List.foldl (fun w kv => w.writeValue kv.1 kv.2) w r).nextLine <;> exact ih _

theorem stringRows_deferred_eq {β : Type} (f : StringWriter → β) (rows : List (List KV)) (w : StringWriter) :
    (match stringRowsDeferred w none rows with
      | (_, some e) => Except.error e
      | (w', none) => .ok (f w')) =
    match w.writeRows rows with
      | .ok w' => .ok (f w')
      | .error e => .error e := by
  induction rows generalizing w with
  | nil => rfl
  | cons r rs ih =>
    rw [stringRowsDeferred, StringWriter.writeRows, StringWriter.writeRow]
    cases (List.foldl (fun w kv => w.writeValue kv.1 kv.2) w r).nextLine with
    | ok w2 => exact ih w2
    | error e => exact stringRows_deferred_some f rs _ e

theorem streamRows_deferred_eq {β : Type} (f : StreamWriter → β) (rows : List (List KV)) (w : StreamWriter) :
    (match streamRowsDeferred w none rows with
      | (_, some e) => Except.error e
      | (w', none) => .ok (f w')) =
    match w.writeRows rows with
      | .ok w' => .ok (f w')
      | .error e => .error e := by
  induction rows generalizing w with
  | nil => rfl
  | cons r rs ih =>
    rw [streamRowsDeferred, StreamWriter.writeRows, StreamWriter.writeRow]
    cases (List.foldl (fun w kv => w.writeValue kv.1 kv.2) w r).nextLine with
    | ok w2 => exact ih w2
    | error e => exact streamRows_deferred_some f rs _ e

end BSVerif.Csv.Archive
