/-
  Two's-complement narrowing, once for all models.

  Every area models `static_cast<T>(x)` for an integer type `T` by the same arithmetic
  (`MsgPack.Model.castTo`, `Num.IntTy.wrap`, `Adapter.IntTy.wrap`, `Chrono.Rep.wrap`): reduce modulo `2^bits`, and for a
  signed type move the upper half below zero. Here the type is given by its signedness and its half range
  `H = 2^(bits-1)` as a *variable*, so that every fact below is linear arithmetic and holds for all widths at once.
-/

namespace BSVerif.IntCast

/-- `static_cast` to the type with half range `H` (so `2·H` values) -/
def wrap (signed : Bool) (H : Int) (x : Int) : Int :=
  let m := x % (2 * H)
  if signed = true ∧ m ≥ H then m - 2 * H else m

/-- the values of that type -/
def InRange (signed : Bool) (H : Int) (x : Int) : Prop :=
  (if signed then -H else 0) ≤ x ∧ x ≤ (if signed then H - 1 else 2 * H - 1)

theorem two_pow_bits {b : Nat} (hb : 0 < b) : (2 : Int) ^ b = 2 * 2 ^ (b - 1) := by
  obtain ⟨k, rfl⟩ : ∃ k, b = k + 1 := ⟨b - 1, by omega⟩
  rw [Int.pow_succ, Int.mul_comm]; rfl

theorem two_pow_pos (b : Nat) : (0 : Int) < 2 ^ b := Int.pow_pos (by decide)

variable {s : Bool} {H x : Int}

theorem two_pow_le {a b : Nat} (h : a ≤ b) : (2 : Int) ^ a ≤ 2 ^ b := by
  have := Int.ofNat_le.2 (Nat.pow_le_pow_right (n := 2) (by decide) h)
  rwa [Int.natCast_pow, Int.natCast_pow] at this

theorem wrap_mem (hH : 0 < H) : InRange s H (wrap s H x) := by
  have h1 := Int.emod_nonneg x (show 2 * H ≠ 0 by omega)
  have h2 := Int.emod_lt_of_pos x (show 0 < 2 * H by omega)
  cases s
  · simp only [wrap, InRange, Bool.false_eq_true, false_and, if_false]; omega
  · -- signed: the upper half of the remainders moves down by one period
    simp only [wrap, InRange, true_and, if_true]; split <;> omega

/-- Within the window `[-2H, 3H)` around the type's range, narrowing moves a value by at most one period `2H`.
    Every value of a type of the same or of half the width lies in that window. -/
theorem wrap_window (hx : -(2 * H) ≤ x ∧ x < 3 * H) :
    wrap s H x = x ∨ wrap s H x = x + 2 * H ∨ wrap s H x = x - 2 * H := by
  have hm : x % (2 * H) = x ∨ x % (2 * H) = x + 2 * H ∨ x % (2 * H) = x - 2 * H := by
    by_cases h : x < 0
    · right; left
      rw [← Int.add_mul_emod_self_left x (2 * H) 1, Int.mul_one]
      exact Int.emod_eq_of_lt (by omega) (by omega)
    · by_cases h' : x < 2 * H
      · left; exact Int.emod_eq_of_lt (by omega) h'
      · right; right
        rw [← Int.sub_mul_emod_self_left x (2 * H) 1, Int.mul_one]
        exact Int.emod_eq_of_lt (by omega) (by omega)
  simp only [wrap]
  split <;> omega

theorem wrap_of_mem (hH : 0 < H) (hx : InRange s H x) : wrap s H x = x := by
  have h1 := wrap_mem (s := s) (x := x) hH
  have h2 := @wrap_window s H x
  unfold InRange at hx h1
  cases s <;> simp only [Bool.false_eq_true, if_false, if_true] at hx h1 <;> omega

/-- the signed cast written as a shifted residue -/
theorem wrap_signed_eq_shift (hH : 0 < H) (x : Int) : (x + H) % (2 * H) - H = wrap true H x := by
  have h1 := Int.emod_nonneg x (show 2 * H ≠ 0 by omega)
  have h2 := Int.emod_lt_of_pos x (show 0 < 2 * H by omega)
  rw [← Int.emod_add_emod]
  simp only [wrap, true_and]
  generalize x % (2 * H) = m at *
  split
  · rw [← Int.sub_mul_emod_self_left (m + H) (2 * H) 1, Int.mul_one, Int.emod_eq_of_lt (by omega) (by omega)]; omega
  · rw [Int.emod_eq_of_lt (by omega) (by omega)]; omega

theorem wrap_eq_self_iff (hH : 0 < H) : wrap s H x = x ↔ InRange s H x :=
  ⟨fun h => h ▸ wrap_mem hH, wrap_of_mem hH⟩

/-- Cast, cast back, compare, compare signs: the test of `Convert::Detail::To` for two integer types `S → T`
    succeeds exactly on the values of `T`, whatever the two widths. -/
theorem castBack_iff {ss ts : Bool} {HS HT v : Int} (hS : 0 < HS) (hT : 0 < HT)
    (hv : InRange ss HS v) :
    (wrap ss HS (wrap ts HT v) = v ∧ ¬ ((wrap ts HT v > 0 ∧ v < 0) ∨ (wrap ts HT v < 0 ∧ v > 0))) ↔ InRange ts HT v := by
  constructor
  · /- A value `v` outside `T`'s range comes back changed or changes sign. With `w` the value cast to `T` and `b` the value cast
       back, all that is known is linear in `v w b HS HT`: `w` is a value of `T` (`a1`); if `v` is within `T`'s window then `w`
       is `v` moved by at most one period of `T` (`a2`), and if not, `T` is less than half as wide as `S`, so `w` is a value of
       `S` and comes back unchanged (`a4`) while `v ≠ w`; likewise `b` against `w` (`a3`). -/
    intro ⟨hback, hsign⟩
    have a1 := wrap_mem (s := ts) (x := v) hT
    have a2 := @wrap_window ts HT v
    have a3 := @wrap_window ss HS (wrap ts HT v)
    have a4 := wrap_of_mem (s := ss) (x := wrap ts HT v) hS
    generalize wrap ts HT v = w at *
    generalize wrap ss HS w = b at *
    unfold InRange at *
    cases ss <;> cases ts <;> simp only [Bool.false_eq_true, if_false, if_true] at * <;> omega
  · intro h
    rw [wrap_of_mem hT h, wrap_of_mem hS hv]
    exact ⟨rfl, by omega⟩

end BSVerif.IntCast
