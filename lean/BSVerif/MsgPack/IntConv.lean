/-
  `Convert::Detail::To` between integer types (`Model.convInt`) against plain range membership.
  The arithmetic is `IntCast.castBack_iff`; here only the bridge from `castTo` / `IntTy.holds` and the bool target.
-/
import BSVerif.MsgPack.Reader
import BSVerif.IntCast

namespace BSVerif.MsgPack
open BSVerif BSVerif.MsgPack.Model

/-- value range of an integral C++ type -/
def Model.IntTy.lo (t : IntTy) : Int := if t.isBool then 0 else if t.signed then -(2 ^ (t.bits - 1)) else 0
def Model.IntTy.hi (t : IntTy) : Int := if t.isBool then 1 else if t.signed then 2 ^ (t.bits - 1) - 1 else 2 ^ t.bits - 1
def Model.IntTy.holds (t : IntTy) (v : Int) : Prop := t.lo ≤ v ∧ v ≤ t.hi
instance (t : IntTy) (v : Int) : Decidable (t.holds v) := by unfold Model.IntTy.holds; exact inferInstance

/-- source types of `ConvertByPolicy` inside `ReadInteger` (wire formats; `int` for the boolean literals) -/
def srcTypes : List IntTy := [tyI8, tyU8, tyU16, tyU32, tyU64, tyI16, tyI32, tyI64]
/-- the integer `ReadValue` targets -/
def tgtTypes : List IntTy := [tyBool, tyU8, tyU16, tyU32, tyU64, tyChar, tyI8, tyI16, tyI32, tyI64]

theorem castTo_eq_wrap (t : IntTy) (hb : 0 < t.bits) (v : Int) : castTo t v = IntCast.wrap t.signed (2 ^ (t.bits - 1)) v := by
  simp only [castTo, IntCast.wrap, Int.ofNat_eq_natCast, Int.natCast_pow, Int.cast_ofNat_Int, IntCast.two_pow_bits hb]

theorem holds_iff_inRange (t : IntTy) (hb : 0 < t.bits) (hnb : t.isBool = false) (v : Int) :
    t.holds v ↔ IntCast.InRange t.signed (2 ^ (t.bits - 1)) v := by
  simp only [Model.IntTy.holds, Model.IntTy.lo, Model.IntTy.hi, IntCast.InRange, hnb, Bool.false_eq_true, if_false, IntCast.two_pow_bits hb]

theorem castTo_of_holds (t : IntTy) (hb : 0 < t.bits) (hnb : t.isBool = false) (v : Int) (h : t.holds v) : castTo t v = v := by
  rw [castTo_eq_wrap t hb, IntCast.wrap_of_mem (IntCast.two_pow_pos _) ((holds_iff_inRange t hb hnb v).1 h)]

/-- integer source, integer target, any two widths -/
theorem convInt_int (src tgt : IntTy) (hs : 0 < src.bits) (ht : 0 < tgt.bits) (hsb : src.isBool = false) (htb : tgt.isBool = false)
    (v : Int) (hv : src.holds v) : convInt src tgt v = if tgt.holds v then some v else none := by
  unfold convInt
  by_cases hst : src = tgt
  · subst hst; simp [hv]
  · rw [holds_iff_inRange src hs hsb] at hv
    simp only [hst, htb, if_false, Bool.false_eq_true]
    rw [castTo_eq_wrap _ hs, castTo_eq_wrap _ ht]
    have hiff := (IntCast.castBack_iff (ts := tgt.signed) (IntCast.two_pow_pos _) (IntCast.two_pow_pos (tgt.bits - 1)) hv).trans
      (holds_iff_inRange tgt ht htb v).symm
    by_cases h : tgt.holds v
    · rw [if_pos (hiff.2 h), if_pos h, IntCast.wrap_of_mem (IntCast.two_pow_pos _) ((holds_iff_inRange tgt ht htb v).1 h)]
    · rw [if_neg (mt hiff.1 h), if_neg h]

/-- integer source, `bool` target: `static_cast<bool>` comes back unchanged only from 0 and 1 -/
theorem convInt_bool (src tgt : IntTy) (hs : 0 < src.bits) (hsb : src.isBool = false) (htb : tgt.isBool = true) (h1 : src.holds 1)
    (v : Int) (hv : src.holds v) : convInt src tgt v = if tgt.holds v then some v else none := by
  have hst : src ≠ tgt := fun h => by rw [h, htb] at hsb; cases hsb
  have hb : tgt.holds v ↔ v = 0 ∨ v = 1 := by
    simp only [Model.IntTy.holds, Model.IntTy.lo, Model.IntTy.hi, htb, if_true]; omega
  simp only [convInt, hst, htb, if_false, if_true, hb]
  by_cases h0 : v = 0
  · subst h0; simp [castTo_of_holds src hs hsb 0 hv]
  · simp only [ne_eq, h0, not_false_eq_true, if_true, false_or, castTo_of_holds src hs hsb 1 h1]
    by_cases h : (1 : Int) = v
    · subst h; simp
    · rw [if_neg h, if_neg (fun e => h e.symm)]

theorem srcTypes_wf {t : IntTy} (h : t ∈ srcTypes) : 0 < t.bits ∧ t.isBool = false ∧ t.holds 1 := by
  simp only [srcTypes, List.mem_cons, List.mem_nil_iff, or_false] at h
  rcases h with rfl | rfl | rfl | rfl | rfl | rfl | rfl | rfl <;> decide

theorem castTo_id (t : IntTy) (ht : t ∈ srcTypes) (v : Int) (h : t.holds v) : castTo t v = v :=
  castTo_of_holds t (srcTypes_wf ht).1 (srcTypes_wf ht).2.1 v h

/-- `Convert::Detail::To` (cast, cast back, compare, sign test) succeeds exactly when the value is in
    the target's range, and then delivers the value itself — for every wire type x every target. -/
theorem convInt_spec (src tgt : IntTy) (hs : src ∈ srcTypes) (ht : tgt ∈ tgtTypes) (v : Int) (hv : src.holds v) :
    convInt src tgt v = if tgt.holds v then some v else none := by
  obtain ⟨hb, hnb, h1⟩ := srcTypes_wf hs
  by_cases htb : tgt.isBool = true
  · exact convInt_bool src tgt hb hnb htb h1 v hv
  · refine convInt_int src tgt hb ?_ hnb (by simpa using htb) v hv
    simp only [tgtTypes, List.mem_cons, List.mem_nil_iff, or_false] at ht
    rcases ht with rfl | rfl | rfl | rfl | rfl | rfl | rfl | rfl | rfl | rfl <;> decide

end BSVerif.MsgPack
