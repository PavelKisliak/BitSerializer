/-
  Big-endian arithmetic (`beNat` / `beBytes`), `takeN`, and Memory::Reverse / PushValue / GetValue of the
  little-endian host against them.
-/
import BSVerif.MsgPack.Spec
import BSVerif.MsgPack.Reader

namespace BSVerif.MsgPack
open BSVerif BSVerif.MsgPack.Spec BSVerif.MsgPack.Model

/-- `Bytes` are lists of `Nat`: these are the lists of byte values -/
def BytesOk (l : Bytes) : Prop := ∀ b ∈ l, b < 256
instance (l : Bytes) : Decidable (BytesOk l) := by unfold BytesOk; exact inferInstance

theorem BytesOk.append {a b : Bytes} (ha : BytesOk a) (hb : BytesOk b) : BytesOk (a ++ b) := by
  intro x hx; rcases List.mem_append.mp hx with h | h
  · exact ha x h
  · exact hb x h

theorem BytesOk.drop {l : Bytes} (h : BytesOk l) (n : Nat) : BytesOk (l.drop n) :=
  fun b hb => h b (List.mem_of_mem_drop hb)

theorem BytesOk.take {l : Bytes} (h : BytesOk l) (n : Nat) : BytesOk (l.take n) :=
  fun b hb => h b (List.mem_of_mem_take hb)

theorem beNat_foldl (acc : Nat) (l : Bytes) :
    List.foldl (fun a b => a * 256 + b) acc l = acc * 256 ^ l.length + beNat l := by
  induction l generalizing acc with
  | nil => simp [beNat]
  | cons x t ih =>
    simp only [List.foldl_cons, List.length_cons, beNat]
    rw [ih (acc * 256 + x), ih (0 * 256 + x)]
    simp [Nat.pow_succ, Nat.add_mul, Nat.mul_assoc, Nat.mul_comm 256]
    omega

theorem beNat_nil : beNat [] = 0 := rfl

theorem beNat_cons (x : Nat) (l : Bytes) : beNat (x :: l) = x * 256 ^ l.length + beNat l := by
  have := beNat_foldl x l
  simp only [beNat, List.foldl_cons] at *
  simpa using this

theorem beNat_single (t : Nat) : beNat [t] = t := by simp [beNat]

theorem beNat_append (a b : Bytes) : beNat (a ++ b) = beNat a * 256 ^ b.length + beNat b := by
  induction a with
  | nil => simp [beNat_nil]
  | cons x t ih =>
    simp only [List.cons_append, beNat_cons, ih, List.length_append, Nat.pow_add, Nat.add_mul, Nat.mul_assoc]
    omega

@[simp] theorem beBytes_length (k v : Nat) : (beBytes k v).length = k := by
  induction k with
  | zero => rfl
  | succ k ih => simp [beBytes, ih]

theorem beBytes_ok (k v : Nat) : BytesOk (beBytes k v) := by
  induction k with
  | zero => intro b hb; simp [beBytes] at hb
  | succ k ih =>
    intro b hb
    simp only [beBytes, List.mem_cons] at hb
    rcases hb with rfl | hb
    · exact Nat.mod_lt _ (by decide)
    · exact ih b hb

theorem beNat_beBytes_mod (k v : Nat) : beNat (beBytes k v) = v % 256 ^ k := by
  induction k with
  | zero => simp [beBytes, beNat_nil, Nat.mod_one]
  | succ k ih =>
    simp only [beBytes, beNat_cons, beBytes_length, ih]
    rw [Nat.pow_succ, Nat.mod_mul]
    rw [Nat.mul_comm (256 ^ k)]
    omega

theorem beNat_beBytes (k v : Nat) (h : v < 256 ^ k) : beNat (beBytes k v) = v := by
  rw [beNat_beBytes_mod, Nat.mod_eq_of_lt h]

theorem beNat_lt (l : Bytes) (h : BytesOk l) : beNat l < 256 ^ l.length := by
  induction l with
  | nil => simp [beNat_nil]
  | cons x t ih =>
    rw [beNat_cons, List.length_cons, Nat.pow_succ]
    have hx : x < 256 := h x (by simp)
    have ht := ih (fun b hb => h b (by simp [hb]))
    have : x * 256 ^ t.length + 256 ^ t.length ≤ 256 ^ t.length * 256 := by
      have : (x + 1) * 256 ^ t.length ≤ 256 * 256 ^ t.length := Nat.mul_le_mul_right _ (by omega)
      rw [Nat.add_mul, Nat.one_mul] at this
      rw [Nat.mul_comm (256 ^ t.length) 256]; exact this
    omega

theorem takeN_eq (k : Nat) (r : Bytes) : takeN k r = if k ≤ r.length then some (r.take k, r.drop k) else none := rfl

theorem takeN_cons (x : Nat) (l : Bytes) : takeN 1 (x :: l) = some ([x], l) := by
  simp [takeN]

theorem takeN_append (d r : Bytes) : takeN d.length (d ++ r) = some (d, r) := by
  simp [takeN]

theorem takeN_append_len (k : Nat) (d r : Bytes) (h : d.length = k) : takeN k (d ++ r) = some (d, r) := by
  subst h; exact takeN_append d r

theorem takeN_beBytes (k v : Nat) (r : Bytes) : takeN k (beBytes k v ++ r) = some (beBytes k v, r) :=
  takeN_append_len k _ r (beBytes_length k v)

theorem takeN_none {n : Nat} {l : Bytes} (h : l.length < n) : takeN n l = none := by
  simp [takeN]; omega

theorem takeN_some {n : Nat} {l d r : Bytes} (h : takeN n l = some (d, r)) : l = d ++ r ∧ d.length = n := by
  unfold takeN at h
  split at h
  · rename_i hle
    simp only [Option.some.injEq, Prod.mk.injEq] at h
    obtain ⟨rfl, rfl⟩ := h
    exact ⟨(List.take_append_drop n l).symm, by simp; omega⟩
  · cases h

theorem leBytes_length (k v : Nat) : (leBytes k v).length = k := by
  induction k generalizing v with
  | zero => rfl
  | succ k ih => rw [leBytes, List.length_cons, ih]

theorem leBytes_snoc (k v : Nat) : leBytes (k + 1) v = leBytes k v ++ [v / 256 ^ k % 256] := by
  induction k generalizing v with
  | zero => simp [leBytes]
  | succ k ih =>
    rw [leBytes, ih (v / 256), leBytes, Nat.div_div_eq_div_mul, Nat.pow_succ, Nat.mul_comm 256]
    rfl

theorem beBytes_reverse (k v : Nat) : (beBytes k v).reverse = leBytes k v := by
  induction k with
  | zero => rfl
  | succ k ih => rw [beBytes, List.reverse_cons, ih, leBytes_snoc]

theorem leNat_append (a b : Bytes) : leNat (a ++ b) = leNat a + 256 ^ a.length * leNat b := by
  induction a with
  | nil => simp [leNat]
  | cons x t ih =>
    rw [List.cons_append, leNat, ih, leNat, List.length_cons, Nat.pow_succ, Nat.mul_add, Nat.add_assoc,
      Nat.mul_comm _ 256, Nat.mul_assoc]

theorem leNat_reverse (l : Bytes) : leNat l.reverse = beNat l := by
  induction l with
  | nil => rfl
  | cons x t ih =>
    rw [List.reverse_cons, leNat_append, ih, beNat_cons, List.length_reverse, Nat.add_comm, Nat.mul_comm]
    simp [leNat]

theorem leBytes_leNat (l : Bytes) (h : BytesOk l) : leBytes l.length (leNat l) = l := by
  induction l with
  | nil => rfl
  | cons x t ih =>
    have hx : x < 256 := h x (by simp)
    have e1 : (x + 256 * leNat t) % 256 = x := by omega
    have e2 : (x + 256 * leNat t) / 256 = leNat t := by omega
    rw [List.length_cons, leBytes, leNat, e1, e2, ih fun b hb => h b (by simp [hb])]

theorem beBytes_leNat (l : Bytes) (h : BytesOk l) : beBytes l.length (leNat l) = l.reverse := by
  rw [← List.reverse_reverse (beBytes _ _), beBytes_reverse, leBytes_leNat l h]

/-- `Memory::Reverse` for 2, 4 and 8 bytes: the value the host loads from the big-endian digits of `v`.
    (The 1-byte overload is the identity, which is this only for `v < 256`.) -/
theorem reverse_eq (k v : Nat) (hk : k = 2 ∨ k = 4 ∨ k = 8) : reverse k v = leNat (beBytes k v) := by
  -- both sides are sums of the digits `v / 256^i % 256` with constant coefficients: distribute and compare
  rcases hk with rfl | rfl | rfl
  · show reverse16 v = _
    simp only [reverse16, beBytes, leNat, Nat.reducePow, Nat.mul_zero, Nat.add_zero, Nat.div_one, Nat.mul_comm (_ % 256)]
  · show reverse32 v = _
    simp only [reverse32, beBytes, leNat, Nat.reducePow, Nat.mul_add, Nat.mul_zero, Nat.add_zero, ← Nat.mul_assoc, Nat.reduceMul,
      Nat.div_one, Nat.mul_comm (_ % 256), Nat.add_assoc]
  · show reverse64 v = _
    simp only [reverse64, beBytes, leNat, Nat.reducePow, Nat.mul_add, Nat.mul_zero, Nat.add_zero, ← Nat.mul_assoc, Nat.reduceMul,
      Nat.div_one, Nat.mul_comm (_ % 256), Nat.add_assoc]

/-- the `sizeof(T)` at which `PushValue` and `GetValue` are instantiated -/
def WidthOk (k : Nat) : Prop := k = 1 ∨ k = 2 ∨ k = 4 ∨ k = 8

/-- `PushValue` (NativeToBigEndian, then the object representation on the little-endian host) writes the
    big-endian bytes of the specification. -/
theorem pushBE_eq (k v : Nat) (hk : WidthOk k) : pushBE k v = beBytes k v := by
  rcases hk with rfl | hk
  · simp [pushBE, reverse, leBytes, beBytes]
  · have := leBytes_leNat (beBytes k v) (beBytes_ok k v)
    rwa [beBytes_length, ← reverse_eq k v hk] at this

/-- native load + `BigEndianToNative` = big-endian value of the bytes -/
theorem loadBE_eq (k : Nat) (hk : WidthOk k) (l : Bytes) (hl : l.length = k) (hb : BytesOk l) :
    reverse k (leNat l) = beNat l := by
  subst hl
  rcases hk with hk | hk
  · match l, hk with
    | [a], _ => simp [reverse, leNat, beNat]
  · rw [reverse_eq _ _ hk, beBytes_leNat l hb, leNat_reverse]

theorem getElem?_eq_drop_head (bs : Bytes) (pos : Nat) : bs[pos]? = (bs.drop pos).head? := by
  simp [List.head?_drop]

theorem getValue_eq (k : Nat) (hk : WidthOk k) (bs : Bytes) (hb : BytesOk bs) (pos : Nat) :
    getValue k bs pos =
      match takeN k (bs.drop pos) with
      | some (d, _) => .ok (beNat d, pos + k)
      | none => .error .parsing := by
  unfold getValue
  by_cases h1 : k = 1
  · subst h1
    simp only [if_true]
    rw [getElem?_eq_drop_head]
    cases hd : bs.drop pos with
    | nil => simp [takeN]
    | cons x t => simp [takeN, beNat]
  · simp only [h1, if_false]
    unfold takeN
    simp only [List.length_drop]
    by_cases h2 : pos + k ≤ bs.length
    · have h3 : k ≤ bs.length - pos := by omega
      simp only [h2, h3, if_true]
      rw [loadBE_eq k hk _ (by simp; omega) ((hb.drop pos).take k)]
    · have h3 : ¬ k ≤ bs.length - pos := by
        -- beyond the end `bs.length - pos` is 0: this needs `k ≠ 0`
        rcases hk with rfl | rfl | rfl | rfl <;> omega
      simp [h2, h3]

end BSVerif.MsgPack
