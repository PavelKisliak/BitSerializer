/-
  The reader model on encodings produced by the Spec's encoder: `GetValue` on big-endian fields (in full and cut
  short), the sized branches of `ReadInteger<T>` on every integer format, `ReadValueType` wherever the Spec finds a token.
-/
import BSVerif.MsgPack.SkipLemmas
import BSVerif.MsgPack.SpecLemmas
import BSVerif.MsgPack.IntConv

namespace BSVerif.MsgPack
open BSVerif BSVerif.MsgPack.Spec BSVerif.MsgPack.Model BSVerif.Generated

theorem drop_after (bs : Bytes) (p : Nat) (a b : Bytes) (h : bs.drop p = a ++ b) :
    bs.drop (p + a.length) = b ∧ bs.length - p = a.length + b.length := by
  constructor
  · rw [← List.drop_drop, h, List.drop_left]
  · have := congrArg List.length h
    simpa using this

theorem take_of_drop (bs : Bytes) (p : Nat) (d rest : Bytes) (h : bs.drop p = d ++ rest) :
    (bs.drop p).take d.length = d := by rw [h, List.take_left]

theorem getValue_on_bytes (k : Nat) (hk : WidthOk k) (bs : Bytes) (hb : BytesOk bs) (p : Nat) (d rest : Bytes) (hl : d.length = k)
    (hd : bs.drop p = d ++ rest) : getValue k bs p = .ok (beNat d, p + k) := by
  rw [getValue_eq k hk bs hb p, hd, takeN_append_len k d rest hl]

theorem getValue_on_be (k : Nat) (hk : WidthOk k) (bs : Bytes) (hb : BytesOk bs) (p n : Nat) (hn : n < 256 ^ k)
    (rest : Bytes) (hd : bs.drop p = beBytes k n ++ rest) : getValue k bs p = .ok (n, p + k) := by
  rw [getValue_on_bytes k hk bs hb p _ rest (beBytes_length k n) hd, beNat_beBytes k n hn]

theorem getValue_short (k : Nat) (hk : WidthOk k) (bs : Bytes) (hb : BytesOk bs) (p : Nat) (h : (bs.drop p).length < k) :
    getValue k bs p = .error .parsing := by
  rw [getValue_eq k hk bs hb p, takeN_none h]

/-- the value ranges of the `8k`-bit types, in the form `encUInt` / `encSInt` test them -/
theorem holds_iff_uint (t : IntTy) (k : Nat) (hs : t.signed = false) (hb : t.isBool = false) (hk : t.bits = 8 * k) (v : Int) :
    t.holds v ↔ 0 ≤ v ∧ v < Int.ofNat (256 ^ k) := by
  have e : (2 : Int) ^ (8 * k) = ((256 ^ k : Nat) : Int) := by rw [Int.pow_mul]; simp
  simp only [Model.IntTy.holds, Model.IntTy.lo, Model.IntTy.hi, hs, hb, hk, Bool.false_eq_true, if_false, e, Int.ofNat_eq_natCast]
  omega

theorem holds_iff_sint (t : IntTy) (k : Nat) (hs : t.signed = true) (hb : t.isBool = false) (hk : t.bits = 8 * k) (v : Int) :
    t.holds v ↔ -(Int.ofNat (2 ^ (8 * k - 1))) ≤ v ∧ v < Int.ofNat (2 ^ (8 * k - 1)) := by
  have e : ((2 ^ (8 * k - 1) : Nat) : Int) = 2 ^ (8 * k - 1) := by simp
  simp only [Model.IntTy.holds, Model.IntTy.lo, Model.IntTy.hi, hs, hb, hk, Bool.false_eq_true, if_false, if_true,
    Int.ofNat_eq_natCast, e]
  omega

/-- `static_cast` sees only the residue modulo `2^bits` … -/
theorem castTo_emod (t : IntTy) (v : Int) : castTo t (v % Int.ofNat (2 ^ t.bits)) = castTo t v := by
  simp only [castTo, Int.emod_emod_of_dvd _ (Int.dvd_refl _)]

/-- … so it reads a value back from its two's-complement image -/
theorem castTo_ofSigned (t : IntTy) (v : Int) : castTo t (Int.ofNat (ofSigned t.bits v)) = castTo t v := by
  have hM : Int.ofNat (2 ^ t.bits) ≠ 0 := by
    have : 0 < 2 ^ t.bits := Nat.pow_pos (by decide)
    simp only [Int.ofNat_eq_natCast, ne_eq]; omega
  rw [ofSigned, Int.ofNat_eq_natCast, Int.toNat_of_nonneg (Int.emod_nonneg v hM), castTo_emod]

/-- the common body of the sized branches on `be(k, n)`, `n` the image of a value of the wire type -/
theorem readIntBody_on_be (tgt : IntTy) (ht : tgt ∈ tgtTypes) (o : Opts) (src : IntTy) (hs : src ∈ srcTypes) (k : Nat) (hk : WidthOk k)
    (bs : Bytes) (hb : BytesOk bs) (pos n : Nat) (hn : n < 256 ^ k) (rest : Bytes)
    (hd : bs.drop (pos + 1) = beBytes k n ++ rest) (v : Int) (hv : castTo src (Int.ofNat n) = v) (hh : src.holds v) :
    readIntBody src tgt o k bs pos
      = convertByPolicy (if tgt.holds v then some v else none) o (pos + 1 + k) := by
  unfold readIntBody
  rw [getValue_on_be k hk bs hb (pos + 1) n hn rest hd]
  simp only [hv, convInt_spec src tgt hs ht v hh]

theorem readIntBody_uint (tgt : IntTy) (ht : tgt ∈ tgtTypes) (o : Opts) (src : IntTy) (hs : src ∈ srcTypes) (k : Nat) (hk : WidthOk k)
    (hu : src.signed = false) (hbits : src.bits = 8 * k) (bs : Bytes) (hb : BytesOk bs) (pos : Nat) (v : Int)
    (hc : 0 ≤ v ∧ v < Int.ofNat (256 ^ k)) (rest : Bytes) (hd : bs.drop (pos + 1) = beBytes k v.toNat ++ rest) :
    readIntBody src tgt o k bs pos = convertByPolicy (if tgt.holds v then some v else none) o (pos + 1 + k) := by
  have hh : src.holds v := (holds_iff_uint src k hu (srcTypes_wf hs).2.1 hbits v).mpr hc
  refine readIntBody_on_be tgt ht o src hs k hk bs hb pos v.toNat ?_ rest hd v ?_ hh
  · have := hc.2; simp only [Int.ofNat_eq_natCast] at this; omega
  · rw [Int.ofNat_eq_natCast, Int.toNat_of_nonneg hc.1]; exact castTo_id src hs v hh

theorem readIntBody_sint (tgt : IntTy) (ht : tgt ∈ tgtTypes) (o : Opts) (src : IntTy) (hs : src ∈ srcTypes) (k : Nat) (hk : WidthOk k)
    (hsg : src.signed = true) (hbits : src.bits = 8 * k) (bs : Bytes) (hb : BytesOk bs) (pos : Nat) (v : Int)
    (hc : -(Int.ofNat (2 ^ (8 * k - 1))) ≤ v ∧ v < Int.ofNat (2 ^ (8 * k - 1))) (rest : Bytes)
    (hd : bs.drop (pos + 1) = beBytes k (ofSigned (8 * k) v) ++ rest) :
    readIntBody src tgt o k bs pos = convertByPolicy (if tgt.holds v then some v else none) o (pos + 1 + k) := by
  have hh : src.holds v := (holds_iff_sint src k hsg (srcTypes_wf hs).2.1 hbits v).mpr hc
  refine readIntBody_on_be tgt ht o src hs k hk bs hb pos _ ?_ rest hd v ?_ hh
  · have := ofSigned_lt (8 * k) v; rwa [Nat.pow_mul] at this
  · rw [← hbits, castTo_ofSigned]; exact castTo_id src hs v hh

theorem convertByPolicy_ite (c : Prop) [Decidable c] (x : α) (o : Opts) (p : Nat) :
    convertByPolicy (if c then some x else none) o p =
      if c then .ok (some x, p) else if o.ovfThrow then .error .overflow else .ok (none, p) := by
  by_cases h : c <;> simp only [h, if_true, if_false] <;> rfl

theorem tgtTypes_holds (tgt : IntTy) (ht : tgt ∈ tgtTypes) : tgt.holds 0 ∧ tgt.holds 1 := by
  simp only [tgtTypes, List.mem_cons, List.mem_nil_iff, or_false] at ht
  rcases ht with rfl | rfl | rfl | rfl | rfl | rfl | rfl | rfl | rfl | rfl <;> decide

theorem readValueType_ok (bs : Bytes) (hb : BytesOk bs) (pos : Nat) (t : Token) (f : Format) (rest : Bytes)
    (h : decodeToken (bs.drop pos) = some (t, f, rest)) : ∃ ty, readValueType bs pos = .ok ty := by
  cases hd : bs.drop pos with
  | nil => rw [hd] at h; simp [decodeToken] at h
  | cons b r =>
    rw [hd] at h
    obtain ⟨h1, h2, h3⟩ := drop_cons_facts hd
    have hb256 : b < 256 := hb b (List.mem_of_getElem? h1)
    obtain ⟨hl, -, -, -⟩ := decodeToken_eq_some.mp h
    unfold tokLen at hl
    by_cases hfam : (formatOf b).family = .ext
    · obtain ⟨hfb, hcol⟩ := Format.ext_columns b hfam
      have hty : (entry b).type = Msgpack.vtExt := (entry_type_iff b hb256 .ext).mpr hfam
      simp only [readValueType, readExtFamilyType, h1, hty, ne_eq, not_true_eq_false, if_false, if_true]
      rw [entry_eq b hb256]
      simp only [hfb]
      rcases (formatOf b).lenBytes_cases b with h0 | ⟨he, hk⟩
      · have hne : (formatOf b).embeddedLen b ≠ 0 := hcol.resolve_right (by simp [h0])
        rw [if_pos hne, if_pos (by omega)]
        exact ⟨_, rfl⟩
      · have hw : WidthOk (formatOf b).lenBytes := by unfold WidthOk; omega
        rw [if_neg (by simp [he]), if_pos (by omega), readExtSize, if_pos hk, getValue_eq _ hw bs hb, h2, takeN_eq,
          if_pos (by omega)]
        simp only [Except.map]
        rw [if_pos (by omega)]
        exact ⟨_, rfl⟩
    · have hty : ¬ (entry b).type = Msgpack.vtExt := mt (entry_type_iff b hb256 .ext).mp hfam
      exact ⟨(entry b).type, by simp only [readValueType, h1, hty, if_false]⟩

end BSVerif.MsgPack
