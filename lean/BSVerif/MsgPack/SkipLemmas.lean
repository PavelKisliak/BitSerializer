/-
  SkipValueImpl — driven by the generated ByteCodeTable — against the Spec: its header step computes the token
  length of the table-driven decoder (TokenLemmas), and `k` calls consume exactly `k` objects.
-/
import BSVerif.MsgPack.TableLemmas
import BSVerif.MsgPack.TokenLemmas

namespace BSVerif.MsgPack
open BSVerif BSVerif.MsgPack.Spec BSVerif.MsgPack.Model BSVerif.Generated

theorem drop_cons_facts {bs : Bytes} {pos b : Nat} {r : Bytes} (h : bs.drop pos = b :: r) :
    bs[pos]? = some b ∧ bs.drop (pos + 1) = r ∧ bs.length = pos + 1 + r.length := by
  have h1 : bs[pos]? = some b := by rw [getElem?_eq_drop_head, h]; rfl
  have h2 : bs.drop (pos + 1) = r := by rw [← List.drop_drop, h]; rfl
  have h3 := congrArg List.length h
  simp only [List.length_drop, List.length_cons] at h3
  exact ⟨h1, h2, by omega⟩

/-- the `type` tests of SkipValueImpl on a table row, in terms of the format -/
theorem familyCode_tests (f : Format) :
    (Oracle.familyCode f.family = Msgpack.vtUnknown ↔ f = .neverUsed) ∧
    ((Oracle.familyCode f.family = Msgpack.vtString ∨ Oracle.familyCode f.family = Msgpack.vtBinaryArray ∨
      Oracle.familyCode f.family = Msgpack.vtExt) ↔ f.flat = true) := by
  cases f <;> decide

/-- The header step of SkipValueImpl on the table row of first byte `b`: it passes over `tokLen` bytes and
    reports the count of a container as the number of children. -/
theorem skipBody_spec (b : Nat) (h256 : b < 256) (bs : Bytes) (hb : BytesOk bs) (pos : Nat) (r : Bytes)
    (h2 : bs.drop (pos + 1) = r) (h3 : bs.length = pos + 1 + r.length) :
    skipBody (entry b) bs (pos + 1) =
      if formatOf b = .neverUsed ∨ r.length < tokLen b r then .error .parsing
      else .ok (pos + 1 + tokLen b r, if (formatOf b).flat then 0 else cnt b r) := by
  obtain ⟨hun, hfl⟩ := familyCode_tests (formatOf b)
  rw [entry_eq b h256]
  unfold skipBody
  simp only [hun, hfl]
  by_cases hu : formatOf b = .neverUsed
  · simp only [hu, if_true, true_or]
  simp only [hu, if_false, false_or]
  -- the count and the size of the length field: `cnt`, provided the length field is there
  have hs : (if (formatOf b).embeddedLen b ≠ 0 then Except.ok ((formatOf b).fixedBody, (formatOf b).embeddedLen b)
      else if (formatOf b).lenBytes ≠ 0 then
        Except.map (fun n => ((formatOf b).fixedBody + (formatOf b).lenBytes, n)) (readExtSize (formatOf b).lenBytes bs (pos + 1))
      else Except.ok ((formatOf b).fixedBody, 0)) =
      if (formatOf b).lenBytes ≤ r.length then Except.ok ((formatOf b).fixedBody + (formatOf b).lenBytes, cnt b r)
      else Except.error Err.parsing := by
    unfold cnt
    rcases (formatOf b).lenBytes_cases b with h0 | ⟨he, hk⟩
    · simp only [h0, List.take_zero, beNat_nil, Nat.add_zero, Nat.zero_le, if_true, ne_eq, not_true_eq_false, if_false]
      split
      · rfl
      · rename_i he; rw [Decidable.not_not.mp he]
    · have hw : WidthOk (formatOf b).lenBytes := by unfold WidthOk; omega
      have hne : (formatOf b).lenBytes ≠ 0 := by omega
      rw [if_neg (by simp [he]), if_pos hne, readExtSize, if_pos hk, getValue_eq _ hw bs hb, h2, takeN_eq, he, Nat.zero_add]
      by_cases hle : (formatOf b).lenBytes ≤ r.length
      · simp only [hle, if_true]; rfl
      · simp only [hle, if_false]; rfl
  rw [hs]
  by_cases hle : (formatOf b).lenBytes ≤ r.length
  · have hT : (if (formatOf b).flat = true then (formatOf b).fixedBody + (formatOf b).lenBytes + cnt b r
        else (formatOf b).fixedBody + (formatOf b).lenBytes) = tokLen b r := by
      unfold tokLen payLen; split <;> omega
    simp only [hle, if_true, hT]
    by_cases h : r.length < tokLen b r
    · rw [if_neg (by omega), if_pos h]
    · rw [if_pos (by omega), if_neg h]
  · simp only [hle, if_false]
    rw [if_pos (by unfold tokLen; omega)]

theorem iter_add (f : Nat → Except Err Nat) (a b pos : Nat) :
    iter f (a + b) pos = match iter f a pos with | .ok p => iter f b p | .error e => .error e := by
  induction a generalizing pos with
  | zero => simp [iter]
  | succ a ih =>
    rw [show a + 1 + b = (a + b) + 1 from by omega]
    simp only [iter]
    cases f pos with
    | error e => rfl
    | ok p => exact ih p

theorem iter_double (f : Nat → Except Err Nat) (n pos : Nat) :
    iter (fun p => match f p with | .ok p' => f p' | .error e => .error e) n pos = iter f (2 * n) pos := by
  induction n generalizing pos with
  | zero => rfl
  | succ n ih =>
    rw [show 2 * (n + 1) = (2 * n) + 1 + 1 from by omega]
    simp only [iter]
    cases f pos with
    | error e => rfl
    | ok p =>
      simp only
      cases f p with
      | error e => rfl
      | ok p' => exact ih p'

theorem skipImpl_succ (fuel : Nat) (bs : Bytes) (hb : BytesOk bs) (pos : Nat) :
    skipImpl (fuel + 1) bs pos =
      match decodeToken (bs.drop pos) with
      | none => .error .parsing
      | some (t, _, rest) => iter (skipImpl fuel bs) t.children (bs.length - rest.length) := by
  simp only [skipImpl, skipHeader]
  cases hd : bs.drop pos with
  | nil =>
    have : bs[pos]? = none := by rw [getElem?_eq_drop_head, hd]; rfl
    simp only [this, decodeToken]
  | cons b r =>
    obtain ⟨h1, h2, h3⟩ := drop_cons_facts hd
    have hb256 : b < 256 := hb b (List.mem_of_getElem? h1)
    simp only [h1]
    rw [skipBody_spec b hb256 bs hb pos r h2 h3]
    cases hdec : decodeToken (b :: r) with
    | none => rw [if_pos (decodeToken_eq_none.mp hdec).symm]
    | some v =>
      obtain ⟨t, f, rest⟩ := v
      obtain ⟨hl, ht, rfl, rfl⟩ := decodeToken_eq_some.mp hdec
      have hu : formatOf b ≠ .neverUsed := fun h => by rw [h] at ht; cases ht
      have hp : bs.length - (r.drop (tokLen b r)).length = pos + 1 + tokLen b r := by
        simp only [List.length_drop]; omega
      rw [if_neg (by simp only [hu, false_or]; omega)]
      simp only [hp]
      -- the table's type column and the count drive the same loop as the token's children
      rcases Format.token_kind ht with ⟨hfam, rfl⟩ | ⟨hfam, rfl⟩ | ⟨hm, ha, hc⟩
      · have hty : (entry b).type = Msgpack.vtMap := (entry_type_iff b hb256 .map).mpr hfam
        have hfl : (formatOf b).flat = false := by simp [Format.flat, hfam]
        simp only [hfl, hty, Token.children, Bool.false_eq_true, if_false, if_true]
        by_cases hn : cnt b r = 0
        · rw [hn]; rfl
        · rw [if_pos hn]; exact iter_double _ _ _
      · have hty : (entry b).type = Msgpack.vtArray := (entry_type_iff b hb256 .array).mpr hfam
        have hfl : (formatOf b).flat = false := by simp [Format.flat, hfam]
        simp only [hfl, hty, Token.children, Bool.false_eq_true, if_false, if_true,
          show Msgpack.vtArray ≠ Msgpack.vtMap by decide]
        by_cases hn : cnt b r = 0
        · rw [hn]; rfl
        · rw [if_pos hn]
      · have h1 : (entry b).type ≠ Msgpack.vtMap := mt (entry_type_iff b hb256 .map).mp hm
        have h2 : (entry b).type ≠ Msgpack.vtArray := mt (entry_type_iff b hb256 .array).mp ha
        simp only [hc, h1, h2, if_false, iter, ite_self]

/-- reader outcome that corresponds to a Spec result "remaining input after the objects" -/
def posResult (bs : Bytes) : Option Bytes → Except Err Nat
  | some rest => .ok (bs.length - rest.length)
  | none => .error .parsing

theorem posResult_drop (bs : Bytes) (p : Nat) (h : p ≤ bs.length) : posResult bs (some (bs.drop p)) = .ok p := by
  simp only [posResult, List.length_drop]
  congr 1; omega

/-- **Core equivalence.** With a recursion budget larger than the remaining input, `k` consecutive
    SkipValueImpl calls behave exactly like the Spec's "consume `k` objects": same success, same end
    position, and every failure is a parsing error. -/
theorem iter_skip_eq (fuel : Nat) : ∀ (bs : Bytes), BytesOk bs → ∀ (k pos : Nat), pos ≤ bs.length → bs.length - pos < fuel →
    iter (skipImpl fuel bs) k pos = posResult bs (objects k (bs.drop pos)) := by
  induction fuel with
  | zero => intro bs _ k pos _ h; omega
  | succ fuel ih =>
    intro bs hb k
    induction k with
    | zero =>
      intro pos hp _
      rw [objects_zero, posResult_drop bs pos hp]; rfl
    | succ k ihk =>
      intro pos hp hf
      simp only [iter]
      rw [skipImpl_succ fuel bs hb pos, objects_succ]
      cases hdec : decodeToken (bs.drop pos) with
      | none => rfl
      | some v =>
        obtain ⟨t, f, rest⟩ := v
        obtain ⟨n, hn0, hn, rfl⟩ := decodeToken_rest hdec
        rw [List.length_drop] at hn
        simp only [List.drop_drop]
        -- behind the token, at `pos + n`: first its children (smaller budget), then the other `k` objects
        have e : bs.length - (bs.drop (pos + n)).length = pos + n := by simp only [List.length_drop]; omega
        rw [e, ih bs hb t.children (pos + n) (by omega) (by omega), Nat.add_comm k, objects_add]
        cases hobj : objects t.children (bs.drop (pos + n)) with
        | none => rfl
        | some rest2 =>
          obtain ⟨m, hm, rfl⟩ := objects_rest hobj
          rw [List.length_drop] at hm
          rw [List.drop_drop, posResult_drop bs _ (by omega), Option.bind_some]
          exact ihk (pos + n + m) (by omega) (by omega)

theorem iter_one (f : Nat → Except Err Nat) (pos : Nat) : iter f 1 pos = f pos := by
  simp only [iter]
  cases f pos <;> rfl

theorem skip_eq (bs : Bytes) (hb : BytesOk bs) (pos : Nat) (hp : pos ≤ bs.length) :
    skip bs pos = posResult bs (objects 1 (bs.drop pos)) :=
  (iter_one _ pos).symm.trans (iter_skip_eq (bs.length + 1) bs hb 1 pos hp (by omega))

end BSVerif.MsgPack
