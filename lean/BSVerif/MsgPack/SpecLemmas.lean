/-
  The Spec against itself: the decoder inverts the encoder (every format, every token), and the size of the
  smallest encoding of a token, read off the format table.
-/
import BSVerif.MsgPack.Lemmas
import BSVerif.IntCast

namespace BSVerif.MsgPack
open BSVerif BSVerif.MsgPack.Spec

theorem ofSigned_lt (bits : Nat) (v : Int) : ofSigned bits v < 2 ^ bits := by
  have hp : 0 < 2 ^ bits := Nat.pow_pos (by decide)
  unfold ofSigned
  generalize 2 ^ bits = M at hp ⊢
  have h0 := Int.emod_nonneg v (show Int.ofNat M ≠ 0 by simp; omega)
  have h1 := Int.emod_lt_of_pos v (show 0 < Int.ofNat M by simp; omega)
  simp only [Int.ofNat_eq_natCast] at *
  omega

/-- reading a two's-complement image back is `IntCast.wrap` at the half range `2^(bits-1)` … -/
theorem toSigned_ofSigned_eq_wrap (bits : Nat) (hb : 0 < bits) (v : Int) :
    toSigned bits (ofSigned bits v) = IntCast.wrap true (Int.ofNat (2 ^ (bits - 1))) v := by
  obtain ⟨k, rfl⟩ : ∃ k, bits = k + 1 := ⟨bits - 1, by omega⟩
  have hH : 0 < 2 ^ k := Nat.pow_pos (by decide)
  simp only [toSigned, ofSigned, IntCast.wrap, Nat.add_sub_cancel, Nat.pow_succ, Int.ofNat_eq_natCast, true_and]
  generalize 2 ^ k = H at hH ⊢
  rw [show ((H * 2 : Nat) : Int) = 2 * (H : Int) by omega]
  have h0 := Int.emod_nonneg v (show 2 * (H : Int) ≠ 0 by omega)
  generalize v % (2 * (H : Int)) = m at h0 ⊢
  split <;> split <;> omega

/-- … the identity on the range -/
theorem toSigned_ofSigned (bits : Nat) (hb : 0 < bits) (v : Int)
    (h : -(Int.ofNat (2 ^ (bits - 1))) ≤ v ∧ v < Int.ofNat (2 ^ (bits - 1))) : toSigned bits (ofSigned bits v) = v := by
  have hH : 0 < 2 ^ (bits - 1) := Nat.pow_pos (by decide)
  rw [toSigned_ofSigned_eq_wrap bits hb]
  exact IntCast.wrap_of_mem (by simp only [Int.ofNat_eq_natCast]; omega) ⟨h.1, by have := h.2; simp only [if_true]; omega⟩

theorem toSigned_ofSigned_ty (t : Int) (h : tyOk t) : toSigned 8 (ofSigned 8 t) = t :=
  toSigned_ofSigned 8 (by decide) t h

theorem toSigned_ff : toSigned 8 (beNat [255]) = -1 := by decide

theorem encUInt_eq_some {code k : Nat} {v : Int} {e : Bytes} :
    encUInt code k v = some e ↔ (0 ≤ v ∧ v < Int.ofNat (256 ^ k)) ∧ code :: beBytes k v.toNat = e :=
  Option.ite_some_none_eq_some

theorem encSInt_eq_some {code k : Nat} {v : Int} {e : Bytes} :
    encSInt code k v = some e ↔
      (-(Int.ofNat (2 ^ (8 * k - 1))) ≤ v ∧ v < Int.ofNat (2 ^ (8 * k - 1))) ∧ code :: beBytes k (ofSigned (8 * k) v) = e :=
  Option.ite_some_none_eq_some

theorem encLenData_eq_some {code k : Nat} {d e : Bytes} :
    encLenData code k d = some e ↔ d.length < 256 ^ k ∧ code :: beBytes k d.length ++ d = e :=
  Option.ite_some_none_eq_some

theorem encCount_eq_some {code k n : Nat} {e : Bytes} :
    encCount code k n = some e ↔ n < 256 ^ k ∧ code :: beBytes k n = e :=
  Option.ite_some_none_eq_some

theorem encExt_eq_some {code k : Nat} {t : Int} {d e : Bytes} :
    encExt code k t d = some e ↔ (d.length < 256 ^ k ∧ tyOk t) ∧ code :: beBytes k d.length ++ ofSigned 8 t :: d = e :=
  Option.ite_some_none_eq_some

theorem encFixExt_eq_some {code n : Nat} {t : Int} {d e : Bytes} :
    encFixExt code n t d = some e ↔ (d.length = n ∧ tyOk t) ∧ code :: ofSigned 8 t :: d = e :=
  Option.ite_some_none_eq_some

theorem decUInt_be (f : Format) (k : Nat) (v : Int) (h : 0 ≤ v ∧ v < Int.ofNat (256 ^ k)) (r : Bytes) :
    decUInt f k (beBytes k v.toNat ++ r) = some (.int v, f, r) := by
  have hn : v.toNat < 256 ^ k := by have := h.2; simp only [Int.ofNat_eq_natCast] at this; omega
  simp only [decUInt, takeN_beBytes, Option.map_some, beNat_beBytes k _ hn, Int.ofNat_eq_natCast, Int.toNat_of_nonneg h.1]

theorem decSInt_be (f : Format) (k : Nat) (hk : 0 < k) (v : Int)
    (h : -(Int.ofNat (2 ^ (8 * k - 1))) ≤ v ∧ v < Int.ofNat (2 ^ (8 * k - 1))) (r : Bytes) :
    decSInt f k (beBytes k (ofSigned (8 * k) v) ++ r) = some (.int v, f, r) := by
  have hn : ofSigned (8 * k) v < 256 ^ k := by
    have := ofSigned_lt (8 * k) v
    rwa [Nat.pow_mul] at this
  simp only [decSInt, takeN_beBytes, Option.map_some, beNat_beBytes k _ hn, toSigned_ofSigned (8 * k) (by omega) v h]

theorem decLenData_be (k : Nat) (d r : Bytes) (hn : d.length < 256 ^ k) :
    decLenData k (beBytes k d.length ++ d ++ r) = some (d, r) := by
  simp only [decLenData, List.append_assoc, takeN_beBytes, Option.bind_some, beNat_beBytes k _ hn, takeN_append]

theorem decFixExt_be (f : Format) (n : Nat) (t : Int) (d r : Bytes) (h : d.length = n ∧ tyOk t) :
    decFixExt f n (ofSigned 8 t :: d ++ r) = some (.ext t d, f, r) := by
  obtain ⟨rfl, ht⟩ := h
  simp only [decFixExt, List.cons_append, takeN_cons, Option.bind_some, takeN_append, Option.map_some, beNat_single,
    toSigned_ofSigned_ty t ht]

theorem decExt_be (f : Format) (k : Nat) (t : Int) (d r : Bytes) (h : d.length < 256 ^ k ∧ tyOk t) :
    decExt f k (beBytes k d.length ++ ofSigned 8 t :: d ++ r) = some (.ext t d, f, r) := by
  obtain ⟨hn, ht⟩ := h
  simp only [decExt, List.append_assoc, List.cons_append, takeN_beBytes, Option.bind_some, beNat_beBytes k _ hn, takeN_cons,
    takeN_append, Option.map_some, beNat_single, toSigned_ofSigned_ty t ht]

theorem formatOf_posFixint (b : Nat) (h : b ≤ 127) : formatOf b = .posFixint := if_pos h

theorem formatOf_negFixint (b : Nat) (h : 224 ≤ b) : formatOf b = .negFixint := by
  unfold formatOf
  iterate 36 rw [if_neg (by omega)]

theorem formatOf_fixmap (n : Nat) (h : n < 16) : formatOf (0x80 + n) = .fixmap := by
  unfold formatOf
  rw [if_neg (by omega), if_pos (by omega)]

theorem formatOf_fixarray (n : Nat) (h : n < 16) : formatOf (0x90 + n) = .fixarray := by
  unfold formatOf
  iterate 2 rw [if_neg (by omega)]
  rw [if_pos (by omega)]

theorem formatOf_fixstr (n : Nat) (h : n < 32) : formatOf (0xA0 + n) = .fixstr := by
  unfold formatOf
  iterate 3 rw [if_neg (by omega)]
  rw [if_pos (by omega)]

/-- the one-byte codes of the "Formats / Overview" table -/
theorem formatOf_lit :
    formatOf 0xc0 = .nil ∧ formatOf 0xc2 = .false_ ∧ formatOf 0xc3 = .true_ ∧ formatOf 0xc4 = .bin8 ∧ formatOf 0xc5 = .bin16 ∧
    formatOf 0xc6 = .bin32 ∧ formatOf 0xc7 = .ext8 ∧ formatOf 0xc8 = .ext16 ∧ formatOf 0xc9 = .ext32 ∧ formatOf 0xca = .float32 ∧
    formatOf 0xcb = .float64 ∧ formatOf 0xcc = .uint8 ∧ formatOf 0xcd = .uint16 ∧ formatOf 0xce = .uint32 ∧ formatOf 0xcf = .uint64 ∧
    formatOf 0xd0 = .int8 ∧ formatOf 0xd1 = .int16 ∧ formatOf 0xd2 = .int32 ∧ formatOf 0xd3 = .int64 ∧ formatOf 0xd4 = .fixext1 ∧
    formatOf 0xd5 = .fixext2 ∧ formatOf 0xd6 = .fixext4 ∧ formatOf 0xd7 = .fixext8 ∧ formatOf 0xd8 = .fixext16 ∧ formatOf 0xd9 = .str8 ∧
    formatOf 0xda = .str16 ∧ formatOf 0xdb = .str32 ∧ formatOf 0xdc = .array16 ∧ formatOf 0xdd = .array32 ∧ formatOf 0xde = .map16 ∧
    formatOf 0xdf = .map32 := by decide

/-- Spec sanity: the decoder inverts the encoder for every format and token (so `Props.C06.Conformant`, which is stated
    with both, is not vacuous and `ableToHold` means what it says). One arm of `encodeAs` after the other, in its order. -/
theorem decode_encode (f : Format) (t : Token) (bs : Bytes) (h : encodeAs f t = some bs) (r : Bytes) :
    decodeToken (bs ++ r) = some (t, f, r) := by
  unfold encodeAs at h
  split at h
  next v =>
    obtain ⟨hc, rfl⟩ := Option.ite_some_none_eq_some.mp h
    simp only [List.cons_append, List.nil_append, decodeToken, formatOf_posFixint v.toNat (by omega), Int.ofNat_eq_natCast,
      Int.toNat_of_nonneg hc.1]
  next v =>
    obtain ⟨hc, rfl⟩ := Option.ite_some_none_eq_some.mp h
    simp only [List.cons_append, List.nil_append, decodeToken, formatOf_negFixint (v + 256).toNat (by omega), Int.ofNat_eq_natCast,
      Int.toNat_of_nonneg (show 0 ≤ v + 256 by omega), Int.add_sub_cancel]
  iterate 4
    · obtain ⟨hc, rfl⟩ := encUInt_eq_some.mp h
      exact decUInt_be _ _ _ hc r
  iterate 4
    · obtain ⟨hc, rfl⟩ := encSInt_eq_some.mp h
      exact decSInt_be _ _ (by decide) _ hc r
  iterate 3
    · cases h; rfl
  · obtain ⟨hc, rfl⟩ := Option.ite_some_none_eq_some.mp h
    simp only [List.cons_append, decodeToken, formatOf_lit, takeN_beBytes, Option.map_some, beNat_beBytes 4 _ hc]
  · obtain ⟨hc, rfl⟩ := Option.ite_some_none_eq_some.mp h
    simp only [List.cons_append, decodeToken, formatOf_lit, takeN_beBytes, Option.map_some, beNat_beBytes 8 _ hc]
  · obtain ⟨hc, rfl⟩ := Option.ite_some_none_eq_some.mp h
    simp only [List.cons_append, decodeToken, formatOf_fixstr _ hc, Nat.add_sub_cancel_left, takeN_append, Option.map_some]
  iterate 6
    · obtain ⟨hc, rfl⟩ := encLenData_eq_some.mp h
      simp only [List.cons_append, decodeToken, formatOf_lit, decLenData_be _ _ r hc, Option.map_some]
  · obtain ⟨hc, rfl⟩ := Option.ite_some_none_eq_some.mp h
    simp only [List.cons_append, List.nil_append, decodeToken, formatOf_fixarray _ hc, Nat.add_sub_cancel_left]
  iterate 2
    · obtain ⟨hc, rfl⟩ := encCount_eq_some.mp h
      simp only [List.cons_append, decodeToken, formatOf_lit, takeN_beBytes, Option.map_some, beNat_beBytes _ _ hc]
  · obtain ⟨hc, rfl⟩ := Option.ite_some_none_eq_some.mp h
    simp only [List.cons_append, List.nil_append, decodeToken, formatOf_fixmap _ hc, Nat.add_sub_cancel_left]
  iterate 2
    · obtain ⟨hc, rfl⟩ := encCount_eq_some.mp h
      simp only [List.cons_append, decodeToken, formatOf_lit, takeN_beBytes, Option.map_some, beNat_beBytes _ _ hc]
  iterate 5
    · obtain ⟨hc, rfl⟩ := encFixExt_eq_some.mp h
      exact decFixExt_be _ _ _ _ r hc
  iterate 3
    · obtain ⟨hc, rfl⟩ := encExt_eq_some.mp h
      exact decExt_be _ _ _ _ r hc
  · cases h

/-- length of the smallest encoding of the integer `v`, read off the format table -/
def minIntLen (v : Int) : Nat :=
  if -32 ≤ v ∧ v ≤ 127 then 1
  else if -128 ≤ v ∧ v ≤ 255 then 2
  else if -32768 ≤ v ∧ v ≤ 65535 then 3
  else if -2147483648 ≤ v ∧ v ≤ 4294967295 then 5
  else 9

/-- `minIntLen` as ranges, in the form `omega` takes as a hypothesis -/
theorem minIntLen_spec (v : Int) :
    (-32 ≤ v ∧ v ≤ 127 ∧ minIntLen v = 1) ∨ ((v < -32 ∨ 127 < v) ∧ -128 ≤ v ∧ v ≤ 255 ∧ minIntLen v = 2) ∨
    ((v < -128 ∨ 255 < v) ∧ -32768 ≤ v ∧ v ≤ 65535 ∧ minIntLen v = 3) ∨
    ((v < -32768 ∨ 65535 < v) ∧ -2147483648 ≤ v ∧ v ≤ 4294967295 ∧ minIntLen v = 5) ∨
    ((v < -2147483648 ∨ 4294967295 < v) ∧ minIntLen v = 9) := by
  unfold minIntLen
  by_cases h1 : -32 ≤ v ∧ v ≤ 127
  · exact .inl ⟨h1.1, h1.2, if_pos h1⟩
  by_cases h2 : -128 ≤ v ∧ v ≤ 255
  · exact .inr (.inl ⟨by omega, h2.1, h2.2, by rw [if_neg h1, if_pos h2]⟩)
  by_cases h3 : -32768 ≤ v ∧ v ≤ 65535
  · exact .inr (.inr (.inl ⟨by omega, h3.1, h3.2, by rw [if_neg h1, if_neg h2, if_pos h3]⟩))
  by_cases h4 : -2147483648 ≤ v ∧ v ≤ 4294967295
  · exact .inr (.inr (.inr (.inl ⟨by omega, h4.1, h4.2, by rw [if_neg h1, if_neg h2, if_neg h3, if_pos h4]⟩)))
  · exact .inr (.inr (.inr (.inr ⟨by omega, by rw [if_neg h1, if_neg h2, if_neg h3, if_neg h4]⟩)))

theorem encodeAs_int_len (f : Format) (v : Int) (bs : Bytes) (h : encodeAs f (.int v) = some bs) :
    minIntLen v ≤ bs.length := by
  have hm := minIntLen_spec v
  cases f <;> simp only [encodeAs, reduceCtorEq] at h
  · obtain ⟨hc, rfl⟩ := Option.ite_some_none_eq_some.mp h
    simp only [List.length_cons, List.length_nil]; omega
  iterate 4
    · obtain ⟨hc, rfl⟩ := encUInt_eq_some.mp h
      simp only [List.length_cons, beBytes_length, Int.ofNat_eq_natCast, Nat.reducePow] at hc ⊢; omega
  iterate 4
    · obtain ⟨hc, rfl⟩ := encSInt_eq_some.mp h
      simp only [List.length_cons, beBytes_length, Int.ofNat_eq_natCast, Nat.reducePow, Nat.reduceMul, Nat.reduceSub] at hc ⊢; omega
  · obtain ⟨hc, rfl⟩ := Option.ite_some_none_eq_some.mp h
    simp only [List.length_cons, List.length_nil]; omega

/-! Bytes before the payload in the smallest str / bin / ext format for `n` payload bytes, and the length of the
smallest array / map header for `n` elements, read off the format table. -/

def hdrStr (n : Nat) : Nat := if n < 32 then 1 else if n < 256 then 2 else if n < 65536 then 3 else 5
def hdrBin (n : Nat) : Nat := if n < 256 then 2 else if n < 65536 then 3 else 5
def hdrCnt (n : Nat) : Nat := if n < 16 then 1 else if n < 65536 then 3 else 5
def hdrExt (n : Nat) : Nat :=
  if n = 1 ∨ n = 2 ∨ n = 4 ∨ n = 8 ∨ n = 16 then 2 else if n < 256 then 3 else if n < 65536 then 4 else 6

theorem hdrStr_spec (n : Nat) :
    (n < 32 ∧ hdrStr n = 1) ∨ (32 ≤ n ∧ n < 256 ∧ hdrStr n = 2) ∨ (256 ≤ n ∧ n < 65536 ∧ hdrStr n = 3) ∨
    (65536 ≤ n ∧ hdrStr n = 5) := by
  unfold hdrStr
  (repeat' split) <;> omega

theorem hdrBin_spec (n : Nat) :
    (n < 256 ∧ hdrBin n = 2) ∨ (256 ≤ n ∧ n < 65536 ∧ hdrBin n = 3) ∨ (65536 ≤ n ∧ hdrBin n = 5) := by
  unfold hdrBin
  (repeat' split) <;> omega

theorem hdrCnt_spec (n : Nat) :
    (n < 16 ∧ hdrCnt n = 1) ∨ (16 ≤ n ∧ n < 65536 ∧ hdrCnt n = 3) ∨ (65536 ≤ n ∧ hdrCnt n = 5) := by
  unfold hdrCnt
  (repeat' split) <;> omega

theorem hdrExt_spec (n : Nat) :
    ((n = 1 ∨ n = 2 ∨ n = 4 ∨ n = 8 ∨ n = 16) ∧ hdrExt n = 2) ∨
    (¬ (n = 1 ∨ n = 2 ∨ n = 4 ∨ n = 8 ∨ n = 16) ∧
      ((n < 256 ∧ hdrExt n = 3) ∨ (256 ≤ n ∧ n < 65536 ∧ hdrExt n = 4) ∨ (65536 ≤ n ∧ hdrExt n = 6))) := by
  unfold hdrExt
  by_cases h : n = 1 ∨ n = 2 ∨ n = 4 ∨ n = 8 ∨ n = 16
  · exact .inl ⟨h, if_pos h⟩
  · rw [if_neg h]
    refine .inr ⟨h, ?_⟩
    (repeat' split) <;> omega

theorem encodeAs_str_len (f : Format) (d : Bytes) (bs : Bytes) (h : encodeAs f (.str d) = some bs) :
    hdrStr d.length + d.length ≤ bs.length := by
  have hm := hdrStr_spec d.length
  cases f <;> simp only [encodeAs, reduceCtorEq] at h
  · obtain ⟨hc, rfl⟩ := Option.ite_some_none_eq_some.mp h
    simp only [List.length_cons]; omega
  iterate 3
    · obtain ⟨hc, rfl⟩ := encLenData_eq_some.mp h
      simp only [List.length_cons, List.length_append, beBytes_length, Nat.reducePow] at hc ⊢; omega

theorem encodeAs_bin_len (f : Format) (d : Bytes) (bs : Bytes) (h : encodeAs f (.bin d) = some bs) :
    hdrBin d.length + d.length ≤ bs.length := by
  have hm := hdrBin_spec d.length
  cases f <;> simp only [encodeAs, reduceCtorEq] at h
  iterate 3
    · obtain ⟨hc, rfl⟩ := encLenData_eq_some.mp h
      simp only [List.length_cons, List.length_append, beBytes_length, Nat.reducePow] at hc ⊢; omega

/-- array and map headers have the same three shapes -/
theorem encodeAs_count_len (f : Format) (n : Nat) (bs : Bytes)
    (h : encodeAs f (.array n) = some bs ∨ encodeAs f (.map n) = some bs) : hdrCnt n ≤ bs.length := by
  have hm := hdrCnt_spec n
  cases f <;> simp only [encodeAs, reduceCtorEq, or_false, false_or] at h
  iterate 2
    · obtain ⟨hc, rfl⟩ := Option.ite_some_none_eq_some.mp h
      simp only [List.length_cons, List.length_nil]; omega
  iterate 4
    · obtain ⟨hc, rfl⟩ := encCount_eq_some.mp h
      simp only [List.length_cons, beBytes_length, Nat.reducePow] at hc ⊢; omega

theorem encodeAs_ext_len (f : Format) (t : Int) (d : Bytes) (bs : Bytes) (h : encodeAs f (.ext t d) = some bs) :
    hdrExt d.length + d.length ≤ bs.length := by
  have hm := hdrExt_spec d.length
  cases f <;> simp only [encodeAs, reduceCtorEq] at h
  iterate 3
    · obtain ⟨hc, rfl⟩ := encExt_eq_some.mp h
      simp only [List.length_cons, List.length_append, beBytes_length, Nat.reducePow] at hc ⊢; omega
  iterate 5
    · obtain ⟨hc, rfl⟩ := encFixExt_eq_some.mp h
      simp only [List.length_cons]; omega

end BSVerif.MsgPack
