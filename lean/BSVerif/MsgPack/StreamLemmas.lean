/-
  The stream-reader programs of MsgPack/StreamReader.lean, interpreted over the abstract cursor, compute exactly what
  the string-reader model computes: `runA N prog (some ⟨bs, pos⟩) = lift bs (model bs pos)`, one lemma per C++ function,
  each from the lemmas of the functions it calls. The programs bear the names of the string-reader functions, in this
  namespace: `StreamModel.getValue_eq` is about the program `StreamModel.getValue`, `MsgPack.getValue_eq` (MsgPack/Lemmas.lean)
  about `Model.getValue`.
-/
import BSVerif.MsgPack.StreamReader
import BSVerif.MsgPack.TableLemmas

namespace BSVerif.MsgPack.StreamModel
open BSVerif BSVerif.Generated BSVerif.MsgPack.Model BSVerif.BinStream

/-- a result of the string-reader model, as a result over the cursor on the same bytes -/
def lift (bs : Bytes) : Except Err (α × Nat) → AR α
  | .ok (a, p) => some (.ok (a, some ⟨bs, p⟩))
  | .error e => some (.error e)

@[simp] theorem bind_eq (p : Prog α) (f : α → Prog β) : (p >>= f) = p.bind f := rfl
@[simp] theorem pure_eq (a : α) : (pure a : Prog α) = .ret a := rfl

theorem runA_bind (N : Nat) (p : Prog α) (f : α → Prog β) (s : Option Cursor) :
    runA N (p.bind f) s =
      match runA N p s with
      | none => none
      | some (.error e) => some (.error e)
      | some (.ok (a, s')) => runA N (f a) s' := by
  induction p generalizing s with
  | ret a => rfl
  | throw e => rfl
  | readSolidBlock n k ih | readExact n k ih | setPosition q k ih =>
    cases s with
    | none => rfl
    | some c => simp only [Prog.bind, runA]; split <;> simp only [ih]
  | _ => cases s <;> simp only [Prog.bind, runA, *]

/-- continue after a string-model step -/
def andThen (r : Except Err (α × Nat)) (g : α → Nat → AR β) : AR β :=
  match r with
  | .ok (a, p') => g a p'
  | .error e => some (.error e)

@[simp] theorem andThen_ok (a : α) (p' : Nat) (g : α → Nat → AR β) : andThen (.ok (a, p')) g = g a p' := rfl
@[simp] theorem andThen_error (e : Err) (g : α → Nat → AR β) : andThen (.error e : Except Err (α × Nat)) g = some (.error e) := rfl

theorem runA_bind_of {N : Nat} {p : Prog α} {bs : Bytes} {pos : Nat} {r : Except Err (α × Nat)} (f : α → Prog β)
    (h : runA N p (some ⟨bs, pos⟩) = lift bs r) :
    runA N (p.bind f) (some ⟨bs, pos⟩) = andThen r fun a p' => runA N (f a) (some ⟨bs, p'⟩) := by
  rw [runA_bind, h]
  cases r with
  | error e => rfl
  | ok v => obtain ⟨a, p'⟩ := v; rfl

theorem block_eq (bs : Bytes) (pos k : Nat) :
    (Cursor.block ⟨bs, pos⟩ k) = if pos + k ≤ bs.length then some ((bs.drop pos).take k) else none := rfl

theorem advance_eq (bs : Bytes) (pos k : Nat) (h : pos + k ≤ bs.length) :
    Cursor.advance ⟨bs, pos⟩ k = ⟨bs, pos + k⟩ := by
  simp [Cursor.advance, Nat.min_eq_left h]

theorem getElem?_lt {bs : Bytes} {pos b : Nat} (hb : bs[pos]? = some b) : pos < bs.length := by
  rcases Nat.lt_or_ge pos bs.length with h | h
  · exact h
  · rw [List.getElem?_eq_none h] at hb; cases hb

theorem peek_bind (N : Nat) (bs : Bytes) (pos : Nat) (f : Option Nat → Prog β) :
    runA N (peekByte.bind f) (some ⟨bs, pos⟩) = runA N (f bs[pos]?) (some ⟨bs, pos⟩) := by
  simp only [peekByte, Prog.bind, runA, Cursor.peekByte]

theorem goto_bind (N : Nat) (bs : Bytes) (pos : Nat) (h : pos < bs.length) (f : Unit → Prog β) :
    runA N (gotoNextByte.bind f) (some ⟨bs, pos⟩) = runA N (f ()) (some ⟨bs, pos + 1⟩) := by
  simp only [gotoNextByte, Prog.bind, runA, advance_eq bs pos 1 (by omega)]

theorem getPos_bind (N : Nat) (bs : Bytes) (pos : Nat) (f : Nat → Prog β) :
    runA N (getPosition.bind f) (some ⟨bs, pos⟩) = runA N (f pos) (some ⟨bs, pos⟩) := by
  simp only [getPosition, Prog.bind, runA]

theorem setPos_bind (N : Nat) (bs : Bytes) (pos q : Nat) (h : q ≤ bs.length) (f : Bool → Prog β) :
    runA N ((setPosition q).bind f) (some ⟨bs, pos⟩) = runA N (f true) (some ⟨bs, q⟩) := by
  simp only [setPosition, Prog.bind, runA, h, if_true]

/-- ReadByte followed by "no byte → throw" -/
theorem readByte_bind (N : Nat) (bs : Bytes) (pos : Nat) (f : Option Nat → Prog β) (e : Err)
    (hf : f none = .throw e) :
    runA N (readByte.bind f) (some ⟨bs, pos⟩) =
      match bs[pos]? with
      | some b => runA N (f (some b)) (some ⟨bs, pos + 1⟩)
      | none => some (.error e) := by
  simp only [readByte, Prog.bind, runA, Cursor.peekByte]
  cases hb : bs[pos]? with
  | none => simp only [hf, runA]
  | some b => simp only [advance_eq bs pos 1 (getElem?_lt hb)]

theorem readExact_bind (N : Nat) (bs : Bytes) (n p : Nat) (f : Bytes → Prog β) :
    runA N ((readExact n).bind f) (some ⟨bs, p⟩) =
      if p + n ≤ bs.length then runA N (f ((bs.drop p).take n)) (some ⟨bs, p + n⟩) else some (.error .parsing) := by
  simp only [readExact, Prog.bind, runA, block_eq]
  by_cases h : p + n ≤ bs.length
  · simp only [h, if_true, advance_eq bs p n h]
  · simp only [h, if_false]

/-- split the same `if` on both sides of a program/model equation -/
theorem if_split_eq {N : Nat} {bs : Bytes} {c : Prop} {inst : Decidable c} {p q : Prog α} {s : Option Cursor}
    {x y : Except Err (α × Nat)}
    (h1 : c → runA N p s = lift bs x) (h2 : ¬ c → runA N q s = lift bs y) :
    runA N (@ite _ c inst p q) s = lift bs (@ite _ c inst x y) := by
  by_cases h : c
  · rw [if_pos h, if_pos h]; exact h1 h
  · rw [if_neg h, if_neg h]; exact h2 h

/-- every `Read*` entry point starts with `PeekByte`, "no byte → throw", and then looks at the byte code -/
theorem peek_dispatch (N : Nat) (bs : Bytes) (pos : Nat) (e : Err) (P : Nat → Prog α) (M : Nat → Except Err (α × Nat))
    (h : ∀ b, bs[pos]? = some b → runA N (P b) (some ⟨bs, pos⟩) = lift bs (M b)) :
    runA N (peekByte.bind fun x => match x with | none => .throw e | some b => P b) (some ⟨bs, pos⟩) =
      lift bs (match bs[pos]? with | none => .error e | some b => M b) := by
  rw [peek_bind]
  cases hb : bs[pos]? with
  | none => rfl
  | some b => exact h b hb

theorem getValue_eq (N k : Nat) (bs : Bytes) (pos : Nat) (hk : 0 < k) (hN : k ≤ N) :
    runA N (getValue k) (some ⟨bs, pos⟩) = lift bs (Model.getValue k bs pos) := by
  unfold getValue Model.getValue
  by_cases h1 : k = 1
  · simp only [h1, if_true, bind_eq, pure_eq]
    rw [readByte_bind N bs pos _ .parsing rfl]
    cases bs[pos]? <;> rfl
  · simp only [h1, if_false, bind_eq, pure_eq, readSolidBlock, Prog.bind, runA, hN, if_true, block_eq]
    by_cases hle : pos + k ≤ bs.length
    · have hne : ((bs.drop pos).take k).isEmpty = false := by
        cases hd : (bs.drop pos).take k with
        | nil =>
          have := congrArg List.length hd
          simp only [List.length_take, List.length_drop, List.length_nil] at this
          omega
        | cons _ _ => rfl
      simp [hle, runA, lift, hne, advance_eq bs pos k hle]
    · simp [hle, lift]

theorem getValue_ok_pos {k : Nat} {bs : Bytes} {pos u p : Nat}
    (h : Model.getValue k bs pos = .ok (u, p)) : p = pos + k ∧ pos + k ≤ bs.length := by
  unfold Model.getValue at h
  split at h
  · rename_i h1
    subst h1
    split at h
    · rename_i b hb
      cases h
      exact ⟨rfl, getElem?_lt hb⟩
    · cases h
  · split at h
    · cases h; rename_i hle; exact ⟨rfl, hle⟩
    · cases h

theorem getValue_bind (N : Nat) (bs : Bytes) (k : Nat) (hk : 0 < k) (hN : k ≤ N) (pos : Nat) (f : Nat → Prog β) :
    runA N ((getValue k).bind f) (some ⟨bs, pos⟩) =
      andThen (Model.getValue k bs pos) fun u p => runA N (f u) (some ⟨bs, p⟩) :=
  runA_bind_of _ (getValue_eq N k bs pos hk hN)

/-- `GotoNextByte(); GetValue(v); return g(v)`: the sized branches of the `Read*` entry points -/
theorem sized_eq (N : Nat) (bs : Bytes) (k : Nat) (hk : 0 < k) (hN : k ≤ N) (pos : Nat) (h : pos < bs.length) (g : Nat → α) :
    runA N (gotoNextByte.bind fun _ => (getValue k).bind fun u => pure (g u)) (some ⟨bs, pos⟩) =
      lift bs (match Model.getValue k bs (pos + 1) with
        | .error e => .error e
        | .ok (u, p) => .ok (g u, p)) := by
  rw [goto_bind N bs pos h, getValue_bind N bs k hk hN]
  cases Model.getValue k bs (pos + 1) with
  | error e => rfl
  | ok v => rfl

theorem readExtSize_eq (N n : Nat) (bs : Bytes) (pos : Nat) (hN : 4 ≤ N) :
    runA N (readExtSize n) (some ⟨bs, pos⟩) =
      lift bs ((Model.readExtSize n bs pos).map fun v => (v, pos + n)) := by
  unfold readExtSize Model.readExtSize
  by_cases hn : n = 1 ∨ n = 2 ∨ n = 4
  · simp only [hn, if_true]
    rw [getValue_eq N n bs pos (by omega) (by omega)]
    cases hg : Model.getValue n bs pos with
    | error e => rfl
    | ok v =>
      obtain ⟨u, p⟩ := v
      obtain ⟨rfl, -⟩ := getValue_ok_pos hg
      rfl
  · simp only [hn, if_false]
    rfl

/-- the part of `skipBody` after the length field -/
def skipTail (e : Entry) (extSize : Nat) : Prog Nat :=
  let flat := e.type = Msgpack.vtString ∨ e.type = Msgpack.vtBinaryArray ∨ e.type = Msgpack.vtExt
  let size := if flat then e.dataSize + extSize else e.dataSize
  (if size = 0 then Prog.ret true else getPosition.bind fun p => setPosition (p + size)).bind fun ok =>
    if ok = true then Prog.ret (if flat then 0 else extSize) else Prog.throw Err.parsing

theorem skipBody_unfold (e : Entry) :
    skipBody e = if e.type = Msgpack.vtUnknown then .throw .parsing
      else (if e.fixedSeq ≠ 0 then Prog.ret e.fixedSeq
            else if e.extSize ≠ 0 then readExtSize e.extSize else Prog.ret 0).bind (skipTail e) := rfl

theorem skipTail_eq (N : Nat) (e : Entry) (n : Nat) (bs : Bytes) (q : Nat) (hq : q ≤ bs.length) :
    runA N (skipTail e n) (some ⟨bs, q⟩) =
      let flat := e.type = Msgpack.vtString ∨ e.type = Msgpack.vtBinaryArray ∨ e.type = Msgpack.vtExt
      let size := if flat then e.dataSize + n else e.dataSize
      lift bs (if q + size ≤ bs.length then .ok (if flat then 0 else n, q + size) else .error .parsing) := by
  simp only [skipTail]
  generalize (if e.type = Msgpack.vtString ∨ e.type = Msgpack.vtBinaryArray ∨ e.type = Msgpack.vtExt then e.dataSize + n else e.dataSize) = size
  by_cases h0 : size = 0
  · subst h0
    simp [Prog.bind, runA, lift, hq]
  · simp only [h0, if_false, getPosition, setPosition, Prog.bind, runA]
    by_cases hle : q + size ≤ bs.length
    · simp [hle, runA, lift]
    · simp [hle, runA, lift]

theorem skipBody_eq (N : Nat) (e : Entry) (bs : Bytes) (pos : Nat) (hN : 4 ≤ N) (hp : pos ≤ bs.length) :
    runA N (skipBody e) (some ⟨bs, pos⟩) =
      lift bs ((Model.skipBody e bs pos).map fun (r : Nat × Nat) => (r.2, r.1)) := by
  rw [skipBody_unfold]
  unfold Model.skipBody
  by_cases hu : e.type = Msgpack.vtUnknown
  · simp only [hu, if_true]; rfl
  · simp only [hu, if_false]
    by_cases hf : e.fixedSeq ≠ 0
    · simp only [hf, if_true, Prog.bind, not_false_eq_true, ne_eq]
      rw [skipTail_eq N e _ bs pos hp]
      simp only []
      (repeat' split) <;> rfl
    · simp only [hf, if_false]
      by_cases hx : e.extSize ≠ 0
      · simp only [hx, if_true, not_false_eq_true, ne_eq]
        rw [runA_bind_of _ (readExtSize_eq N e.extSize bs pos hN)]
        cases hr : Model.readExtSize e.extSize bs pos with
        | error er => rfl
        | ok v =>
          have hle : pos + e.extSize ≤ bs.length := by
            unfold Model.readExtSize at hr
            split at hr
            · cases hg : Model.getValue e.extSize bs pos with
              | error er => rw [hg] at hr; cases hr
              | ok w => obtain ⟨u, p⟩ := w; exact (getValue_ok_pos hg).2
            · cases hr
          simp only [Except.map, andThen_ok]
          rw [skipTail_eq N e _ bs _ hle]
          simp only []
          by_cases hfl : e.type = Msgpack.vtString ∨ e.type = Msgpack.vtBinaryArray ∨ e.type = Msgpack.vtExt
          · simp only [hfl, if_true]
            have : pos + e.extSize + (e.dataSize + v) = pos + (e.dataSize + e.extSize + v) := by omega
            rw [this]
            split <;> rfl
          · simp only [hfl, if_false]
            have : pos + e.extSize + e.dataSize = pos + (e.dataSize + e.extSize) := by omega
            rw [this]
            split <;> rfl
      · simp only [hx, if_false, Prog.bind]
        rw [skipTail_eq N e _ bs pos hp]
        simp only []
        (repeat' split) <;> rfl

/-- a position-only result of the string-reader model (SkipValue) -/
def liftU (bs : Bytes) (r : Except Err Nat) : AR Unit := lift bs (r.map fun p => ((), p))

theorem iter_eq (N : Nat) (bs : Bytes) (body : Prog Unit) (f : Nat → Except Err Nat)
    (h : ∀ pos, runA N body (some ⟨bs, pos⟩) = liftU bs (f pos)) (n : Nat) :
    ∀ pos, runA N (iter body n) (some ⟨bs, pos⟩) = liftU bs (Model.iter f n pos) := by
  induction n with
  | zero => intro pos; rfl
  | succ n ih =>
    intro pos
    simp only [iter, bind_eq, Model.iter]
    rw [runA_bind_of _ (h pos)]
    cases hf : f pos with
    | error e => rfl
    | ok p => simp only [Except.map, andThen_ok]; exact ih p

theorem skipImpl_eq (N : Nat) (bs : Bytes) (hN : 4 ≤ N) (fuel : Nat) :
    ∀ pos, runA N (skipImpl fuel) (some ⟨bs, pos⟩) = liftU bs (Model.skipImpl fuel bs pos) := by
  induction fuel with
  | zero => intro pos; rfl
  | succ fuel ih =>
    intro pos
    simp only [skipImpl, Model.skipImpl, Model.skipHeader, bind_eq, pure_eq, readByte, Prog.bind, runA, Cursor.peekByte]
    cases hb : bs[pos]? with
    | none => rfl
    | some b =>
      have hlt := getElem?_lt hb
      simp only [advance_eq bs pos 1 (by omega)]
      rw [runA_bind_of _ (skipBody_eq N (entry b) bs (pos + 1) hN (by omega))]
      cases hs : Model.skipBody (entry b) bs (pos + 1) with
      | error e => rfl
      | ok v =>
        obtain ⟨p, x⟩ := v
        simp only [Except.map, andThen_ok]
        by_cases hx : x ≠ 0
        · simp only [hx, if_true, not_false_eq_true, ne_eq]
          by_cases hm : (entry b).type = Msgpack.vtMap
          · simp only [hm, if_true]
            refine iter_eq N bs _ _ (fun q => ?_) x p
            rw [runA_bind_of _ (ih q)]
            cases hq : Model.skipImpl fuel bs q with
            | error e => rfl
            | ok q' => simp only [Except.map, andThen_ok]; exact ih q'
          · simp only [hm, if_false]
            by_cases ha : (entry b).type = Msgpack.vtArray
            · simp only [ha, if_true]
              exact iter_eq N bs _ _ ih x p
            · simp only [ha, if_false]; rfl
        · simp only [hx, if_false]; rfl

theorem handleMismatch_eq (N : Nat) (bs : Bytes) (hN : 4 ≤ N) (t : Nat) (m : Bool) (pos : Nat) :
    runA N (handleMismatch (bs.length + 1) t m) (some ⟨bs, pos⟩) = liftU bs (Model.handleMismatch bs pos t m) := by
  unfold handleMismatch Model.handleMismatch
  split
  · rfl
  · exact skipImpl_eq N bs hN _ pos

theorem convertByPolicy_eq (N : Nat) (bs : Bytes) (r : Option α) (o : Opts) (p : Nat) :
    runA N (convertByPolicy r o) (some ⟨bs, p⟩) = lift bs (Model.convertByPolicy r o p) := by
  unfold convertByPolicy Model.convertByPolicy
  cases r with
  | some x => rfl
  | none => simp only []; split <;> rfl

theorem readIntBody_eq (N : Nat) (bs : Bytes) (src tgt : IntTy) (o : Opts) (k : Nat) (hk : 0 < k) (hN : k ≤ N)
    (pos : Nat) (h : pos < bs.length) :
    runA N (readIntBody src tgt o k) (some ⟨bs, pos⟩) = lift bs (Model.readIntBody src tgt o k bs pos) := by
  unfold readIntBody Model.readIntBody
  simp only [bind_eq]
  rw [goto_bind N bs pos h, runA_bind_of _ (getValue_eq N k bs (pos + 1) hk hN)]
  cases hg : Model.getValue k bs (pos + 1) with
  | error e => rfl
  | ok v => obtain ⟨u, p⟩ := v; simp only [andThen_ok]; exact convertByPolicy_eq N bs _ o p

theorem readInteger_eq (N : Nat) (bs : Bytes) (hN : 8 ≤ N) (tgt : IntTy) (o : Opts) (pos : Nat) :
    runA N (readInteger (bs.length + 1) tgt o) (some ⟨bs, pos⟩) = lift bs (Model.readInteger tgt o bs pos) := by
  refine peek_dispatch N bs pos _ _ _ fun b hb => ?_
  have hlt := getElem?_lt hb
  simp only [bind_eq]
  refine if_split_eq ?_ ?_
  · intro _; rw [goto_bind N bs pos hlt]; exact convertByPolicy_eq N bs _ o _
  intro _
  iterate 8
    refine if_split_eq ?_ ?_
    · intro _; exact readIntBody_eq N bs _ tgt o _ (by omega) (by omega) pos hlt
    intro _
  iterate 2
    refine if_split_eq ?_ ?_
    · intro _; rw [goto_bind N bs pos hlt]; exact convertByPolicy_eq N bs _ o _
    intro _
  rw [runA_bind_of _ (handleMismatch_eq N bs (by omega) _ _ pos)]
  cases Model.handleMismatch bs pos (entry b).type o.misThrow <;> rfl

/-- the one fact about the GENERATED ByteCodeTable the equivalence needs: every ext format has exactly one
    data byte besides the payload (the type byte), so "DataOffset bytes are available" (string copy) is
    "the type byte could be read" (stream copy); read off `table_rows` -/
theorem ext_dataSize (b : Nat) (h : (entry b).type = Msgpack.vtExt) : (entry b).dataSize = 1 := by
  rcases Nat.lt_or_ge b 256 with hb | hb
  · rw [entry_eq b hb]
    exact (Spec.Format.ext_columns b ((entry_type_iff b hb .ext).mp h)).1
  · rw [entry_of_ge b hb] at h; cases h

/-- the end of both ext branches: read the type byte at `q`, go back to `pos` -/
theorem typeByte_eq (N : Nat) (bs : Bytes) (pos q sz off : Nat) (hp : pos ≤ bs.length) :
    runA N (readByte.bind fun x => match x with
        | some t => (setPosition pos).bind fun _ => pure (some (ExtInfo.mk sz off t))
        | none => .throw .parsing) (some ⟨bs, q⟩) =
      lift bs (if q + 1 ≤ bs.length then .ok (some (ExtInfo.mk sz off (bs.getD q 0)), pos) else .error .parsing) := by
  rw [readByte_bind N bs q _ .parsing rfl]
  cases hq : bs[q]? with
  | none => rw [if_neg (by have := List.getElem?_eq_none_iff.mp hq; omega)]; rfl
  | some t =>
    have := getElem?_lt hq
    simp only []
    rw [if_pos (by omega), setPos_bind N bs _ pos hp, List.getD_eq_getElem?_getD, hq]
    rfl

theorem readExtFamilyType_eq (N : Nat) (bs : Bytes) (hN : 4 ≤ N) (pos : Nat) :
    runA N readExtFamilyType (some ⟨bs, pos⟩) =
      lift bs ((Model.readExtFamilyType bs pos).map fun i => (i, pos)) := by
  unfold readExtFamilyType Model.readExtFamilyType
  simp only [bind_eq]
  rw [peek_bind]
  cases hb : bs[pos]? with
  | none => rfl
  | some b =>
    have hlt := getElem?_lt hb
    simp only []
    by_cases ht : (entry b).type ≠ Msgpack.vtExt
    · rw [if_pos ht, if_pos ht]; rfl
    rw [if_neg ht, if_neg ht, ext_dataSize b (by simpa using ht), getPos_bind, goto_bind N bs pos hlt]
    by_cases hf : (entry b).fixedSeq ≠ 0
    · rw [if_pos hf, if_pos hf]
      refine (typeByte_eq N bs pos (pos + 1) _ _ (by omega)).trans ?_
      split <;> rfl
    rw [if_neg hf, if_neg hf]
    by_cases hx : (entry b).extSize ≠ 0
    · rw [if_pos hx, if_pos hx, runA_bind_of _ (readExtSize_eq N _ bs (pos + 1) hN)]
      cases hr : Model.readExtSize (entry b).extSize bs (pos + 1) with
      | error e => rfl
      | ok sz =>
        refine (typeByte_eq N bs pos (pos + 1 + (entry b).extSize) _ _ (by omega)).trans ?_
        rw [show pos + 1 + (entry b).extSize + 1 = pos + (1 + 1 + (entry b).extSize) by omega]
        split <;> rfl
    · rw [if_neg hx, if_neg hx]; rfl

theorem readValueType_eq (N : Nat) (bs : Bytes) (hN : 4 ≤ N) (pos : Nat) :
    runA N readValueType (some ⟨bs, pos⟩) = lift bs ((Model.readValueType bs pos).map fun t => (t, pos)) := by
  unfold readValueType Model.readValueType
  simp only [bind_eq]
  rw [peek_bind]
  cases hb : bs[pos]? with
  | none => rfl
  | some b =>
    simp only []
    by_cases ht : (entry b).type = Msgpack.vtExt
    · rw [if_pos ht, if_pos ht, runA_bind_of _ (readExtFamilyType_eq N bs hN pos)]
      cases hr : Model.readExtFamilyType bs pos with
      | error e => rfl
      | ok i => cases i <;> rfl
    · rw [if_neg ht, if_neg ht]; rfl

theorem mismatchTail_eq (N : Nat) (bs : Bytes) (hN : 4 ≤ N) (o : Opts) (pos : Nat) :
    runA N (mismatchTail (α := α) (bs.length + 1) o) (some ⟨bs, pos⟩) = lift bs (Model.mismatchTail o bs pos) := by
  unfold mismatchTail Model.mismatchTail
  simp only [bind_eq]
  rw [runA_bind_of _ (readValueType_eq N bs hN pos)]
  cases hr : Model.readValueType bs pos with
  | error e => rfl
  | ok t =>
    simp only [Except.map, andThen_ok]
    rw [runA_bind_of _ (handleMismatch_eq N bs hN _ _ pos)]
    cases Model.handleMismatch bs pos t o.misThrow <;> rfl

theorem readNil_eq (N : Nat) (bs : Bytes) (hN : 4 ≤ N) (o : Opts) (pos : Nat) :
    runA N (readNil (bs.length + 1) o) (some ⟨bs, pos⟩) = lift bs (Model.readNil o bs pos) := by
  refine peek_dispatch N bs pos _ _ _ fun b hb => if_split_eq ?_ ?_
  · intro _; rw [bind_eq, goto_bind N bs pos (getElem?_lt hb)]; rfl
  · intro _; exact mismatchTail_eq N bs hN o pos

theorem readF32_eq (N : Nat) (bs : Bytes) (hN : 8 ≤ N) (o : Opts) (pos : Nat) :
    runA N (readF32 (bs.length + 1) o) (some ⟨bs, pos⟩) = lift bs (Model.readF32 o bs pos) := by
  refine peek_dispatch N bs pos _ _ _ fun b hb => if_split_eq ?_ ?_
  · intro _; exact sized_eq N bs 4 (by omega) (by omega) pos (getElem?_lt hb) _
  intro _
  refine if_split_eq ?_ ?_
  · intro _
    simp only [bind_eq]
    rw [goto_bind N bs pos (getElem?_lt hb), getValue_bind N bs 8 (by omega) (by omega)]
    cases Model.getValue 8 bs (pos + 1) with
    | error e => rfl
    | ok v => exact convertByPolicy_eq N bs _ o v.2
  · intro _; exact mismatchTail_eq N bs (by omega) o pos

theorem readF64_eq (N : Nat) (bs : Bytes) (hN : 8 ≤ N) (o : Opts) (pos : Nat) :
    runA N (readF64 (bs.length + 1) o) (some ⟨bs, pos⟩) = lift bs (Model.readF64 o bs pos) := by
  refine peek_dispatch N bs pos _ _ _ fun b hb => if_split_eq ?_ ?_
  · intro _; exact sized_eq N bs 8 (by omega) (by omega) pos (getElem?_lt hb) _
  intro _
  refine if_split_eq ?_ ?_
  · intro _; exact sized_eq N bs 4 (by omega) (by omega) pos (getElem?_lt hb) _
  · intro _; exact mismatchTail_eq N bs (by omega) o pos

theorem readCount_eq (N : Nat) (bs : Bytes) (hN : 4 ≤ N) (fixHi c16 c32 : Nat) (o : Opts) (pos : Nat) :
    runA N (readCount fixHi c16 c32 (bs.length + 1) o) (some ⟨bs, pos⟩) =
      lift bs (Model.readCount fixHi c16 c32 o bs pos) := by
  refine peek_dispatch N bs pos _ _ _ fun b hb => if_split_eq ?_ ?_
  · intro _; rw [bind_eq, goto_bind N bs pos (getElem?_lt hb)]; rfl
  intro _
  refine if_split_eq ?_ ?_
  · intro _; exact sized_eq N bs 2 (by omega) (by omega) pos (getElem?_lt hb) _
  intro _
  refine if_split_eq ?_ ?_
  · intro _; exact sized_eq N bs 4 (by omega) (by omega) pos (getElem?_lt hb) _
  · intro _; exact mismatchTail_eq N bs hN o pos

theorem readBinarySize_eq (N : Nat) (bs : Bytes) (hN : 4 ≤ N) (o : Opts) (pos : Nat) :
    runA N (readBinarySize (bs.length + 1) o) (some ⟨bs, pos⟩) = lift bs (Model.readBinarySize o bs pos) := by
  refine peek_dispatch N bs pos _ _ _ fun b hb => if_split_eq ?_ ?_
  · intro _; exact sized_eq N bs 1 (by omega) (by omega) pos (getElem?_lt hb) _
  intro _
  refine if_split_eq ?_ ?_
  · intro _; exact sized_eq N bs 2 (by omega) (by omega) pos (getElem?_lt hb) _
  intro _
  refine if_split_eq ?_ ?_
  · intro _; exact sized_eq N bs 4 (by omega) (by omega) pos (getElem?_lt hb) _
  · intro _; exact mismatchTail_eq N bs hN o pos

/-- the shared body of `ReadValue(string_view&)`: `size` bytes at `p` -/
theorem strTail_eq (N : Nat) (bs : Bytes) (n p : Nat) :
    runA N ((readExact n).bind fun d => pure (some d)) (some ⟨bs, p⟩) =
      lift bs (if p + n ≤ bs.length then .ok (some ((bs.drop p).take n), p + n) else .error .parsing) := by
  rw [readExact_bind]
  split <;> rfl

theorem readStr_eq (N : Nat) (bs : Bytes) (hN : 4 ≤ N) (o : Opts) (pos : Nat) :
    runA N (readStr (bs.length + 1) o) (some ⟨bs, pos⟩) = lift bs (Model.readStr o bs pos) := by
  refine peek_dispatch N bs pos _ _ _ fun b hb => ?_
  have hlt := getElem?_lt hb
  have sized : ∀ k, 0 < k → k ≤ N →
      runA N ((gotoNextByte.bind fun _ => getValue k).bind fun remainingSize =>
          (readExact remainingSize).bind fun d => pure (some d)) (some ⟨bs, pos⟩) =
        lift bs (match Model.getValue k bs (pos + 1) with
          | .error e => .error e
          | .ok (n, p) => if p + n ≤ bs.length then .ok (some ((bs.drop p).take n), p + n) else .error .parsing) := by
    intro k hk hkN
    rw [runA_bind, goto_bind N bs pos hlt, getValue_eq N k bs (pos + 1) hk hkN]
    cases Model.getValue k bs (pos + 1) with
    | error e => rfl
    | ok v => exact strTail_eq N bs v.1 v.2
  simp only [bind_eq]
  refine if_split_eq ?_ ?_
  · intro _
    rw [runA_bind, goto_bind N bs pos hlt]
    exact strTail_eq N bs _ _
  intro _
  refine if_split_eq ?_ ?_
  · intro _; exact sized 1 (by omega) (by omega)
  intro _
  refine if_split_eq ?_ ?_
  · intro _; exact sized 2 (by omega) (by omega)
  intro _
  refine if_split_eq ?_ ?_
  · intro _; exact sized 4 (by omega) (by omega)
  · intro _; exact mismatchTail_eq N bs hN o pos

/-- both arms of `ReadExtFamilyType` that deliver an `ExtInfo` stand under the test `pos + off ≤ length` -/
theorem extFamily_offset_le {bs : Bytes} {pos : Nat} {i : ExtInfo}
    (h : Model.readExtFamilyType bs pos = .ok (some i)) : pos + i.dataOffset ≤ bs.length := by
  unfold Model.readExtFamilyType at h
  split at h
  · cases h
  · simp only [] at h
    split at h
    · cases h
    · split at h
      · split at h
        · rename_i hle; cases h; exact hle
        · cases h
      · split at h
        · split at h
          · cases h
          · split at h
            · rename_i hle; cases h; exact hle
            · cases h
        · cases h

theorem readTs_eq (N : Nat) (bs : Bytes) (hN : 8 ≤ N) (o : Opts) (pos : Nat) :
    runA N (readTs (bs.length + 1) o) (some ⟨bs, pos⟩) = lift bs (Model.readTs o bs pos) := by
  unfold readTs Model.readTs
  simp only [bind_eq]
  rw [runA_bind_of _ (readExtFamilyType_eq N bs (by omega) pos)]
  cases hr : Model.readExtFamilyType bs pos with
  | error e => rfl
  | ok info =>
    simp only [Except.map, andThen_ok]
    cases info with
    | none => exact mismatchTail_eq N bs (by omega) o pos
    | some i =>
      have hoff := extFamily_offset_le hr
      simp only []
      refine if_split_eq ?_ ?_
      · intro _
        rw [getPos_bind, setPos_bind N bs pos _ hoff]
        refine if_split_eq ?_ ?_
        · intro _
          rw [getValue_bind N bs 4 (by omega) (by omega)]
          cases Model.getValue 4 bs (pos + i.dataOffset) with
          | error e => rfl
          | ok v => rfl
        intro _
        refine if_split_eq ?_ ?_
        · intro _
          rw [getValue_bind N bs 8 (by omega) (by omega)]
          cases Model.getValue 8 bs (pos + i.dataOffset) with
          | error e => rfl
          | ok v => rfl
        intro _
        refine if_split_eq ?_ ?_
        · intro _
          rw [getValue_bind N bs 8 (by omega) (by omega)]
          cases Model.getValue 8 bs (pos + i.dataOffset) with
          | error e => rfl
          | ok v =>
            obtain ⟨s, p1⟩ := v
            simp only [andThen_ok]
            rw [getValue_bind N bs 4 (by omega) (by omega)]
            cases Model.getValue 4 bs p1 with
            | error e => rfl
            | ok w => rfl
        · intro _; rfl
      · intro _; exact mismatchTail_eq N bs (by omega) o pos

theorem readBinary_eq (N : Nat) (bs : Bytes) (pos : Nat) :
    runA N readBinary (some ⟨bs, pos⟩) = lift bs (stringReadBinary bs pos) := by
  unfold readBinary stringReadBinary
  simp only [bind_eq]
  rw [readByte_bind N bs pos _ .parsing rfl]
  cases bs[pos]? <;> rfl

theorem setPos_eq (N : Nat) (bs : Bytes) (pos q : Nat) :
    runA N (setPos q) (some ⟨bs, pos⟩) = lift bs ((stringSetPos bs q).map fun p => ((), p)) := by
  unfold setPos stringSetPos
  simp only [bind_eq, setPosition, Prog.bind, runA]
  by_cases h : q ≤ bs.length
  · simp only [h, if_true]; rfl
  · simp only [h, if_false]; rfl

theorem mapRR_bind (N : Nat) (bs : Bytes) (pos : Nat) (p : Prog (Option α)) (r : RR α) (f : α → Ans)
    (h : runA N p (some ⟨bs, pos⟩) = lift bs r) :
    runA N (p.bind fun x => pure (ansOpt f x)) (some ⟨bs, pos⟩) = lift bs (mapRR f r) := by
  rw [runA_bind_of _ h]
  cases r with
  | error e => rfl
  | ok v => obtain ⟨a, p'⟩ := v; rfl

/-- `hp`, the string reader's class invariant, serves `isEnd` alone: the cursor tests `pos ≥ length`, the string `pos == length` -/
theorem callProg_eq (N : Nat) (bs : Bytes) (hN : 8 ≤ N) (o : Opts) (pos : Nat) (hp : pos ≤ bs.length) (c : Call) :
    runA N (callProg (bs.length + 1) o c) (some ⟨bs, pos⟩) = lift bs (callString o bs pos c) := by
  cases c with
  | valueType =>
    simp only [callProg, callString, bind_eq]
    rw [runA_bind_of _ (readValueType_eq N bs (by omega) pos)]
    cases Model.readValueType bs pos <;> rfl
  | skip =>
    simp only [callProg, callString, bind_eq, skip, Model.skip]
    have h := skipImpl_eq N bs (by omega) (bs.length + 1) pos
    unfold liftU at h
    rw [runA_bind_of _ h]
    cases Model.skipImpl (bs.length + 1) bs pos <;> rfl
  | nil => exact mapRR_bind N bs pos _ _ _ (readNil_eq N bs (by omega) o pos)
  | int t => exact mapRR_bind N bs pos _ _ _ (readInteger_eq N bs hN t o pos)
  | f32 => exact mapRR_bind N bs pos _ _ _ (readF32_eq N bs hN o pos)
  | f64 => exact mapRR_bind N bs pos _ _ _ (readF64_eq N bs hN o pos)
  | str => exact mapRR_bind N bs pos _ _ _ (readStr_eq N bs (by omega) o pos)
  | ts => exact mapRR_bind N bs pos _ _ _ (readTs_eq N bs hN o pos)
  | arraySize => exact mapRR_bind N bs pos _ _ _ (readCount_eq N bs (by omega) _ _ _ o pos)
  | mapSize => exact mapRR_bind N bs pos _ _ _ (readCount_eq N bs (by omega) _ _ _ o pos)
  | binarySize => exact mapRR_bind N bs pos _ _ _ (readBinarySize_eq N bs (by omega) o pos)
  | binary =>
    simp only [callProg, callString, bind_eq]
    rw [runA_bind_of _ (readBinary_eq N bs pos)]
    cases hr : stringReadBinary bs pos with
    | error e => rfl
    | ok v => obtain ⟨b, p⟩ := v; rfl
  | getPos => rfl
  | setPos q =>
    simp only [callProg, callString, bind_eq]
    rw [runA_bind_of _ (setPos_eq N bs pos q)]
    cases stringSetPos bs q <;> rfl
  | isEnd =>
    simp only [callProg, callString, bind_eq, isEnd, Prog.bind, runA, Cursor.isEnd, stringIsEnd, lift, pure_eq]
    have : decide (pos ≥ bs.length) = (pos == bs.length) := by
      by_cases h : pos = bs.length
      · simp [h]
      · have : ¬ pos ≥ bs.length := fun hge => h (Nat.le_antisymm hp hge)
        simp [h, this]
    simp [this]

/-- a run from the failed state that returns (`ret`) is still in the failed state -/
theorem runA_none (N : Nat) (p : Prog α) (a : α) (s' : Option Cursor)
    (h : runA N p none = some (.ok (a, s'))) : s' = none := by
  cases p <;> simp [runA] at h
  exact h.2.symm

/-- a cursor on `bs`, not beyond its end, is still so after it advanced -/
theorem advance_inside {bs : Bytes} {c : Cursor} (h : c.data = bs ∧ c.pos ≤ bs.length) (k : Nat) :
    (c.advance k).data = bs ∧ (c.advance k).pos ≤ bs.length := by
  obtain ⟨rfl, -⟩ := h
  exact ⟨rfl, Nat.min_le_right _ _⟩

/-- no program takes the cursor to other data or beyond the end -/
theorem runA_wf (N : Nat) (p : Prog α) (bs : Bytes) :
    ∀ (c : Cursor), c.data = bs ∧ c.pos ≤ bs.length → ∀ (a : α) (c' : Cursor),
      runA N p (some c) = some (.ok (a, some c')) → c'.data = bs ∧ c'.pos ≤ bs.length := by
  induction p with
  | ret a => intro c hc a' c' h; simp [runA] at h; obtain ⟨_, h⟩ := h; subst h; exact hc
  | throw e => intro c hc a' c' h; simp [runA] at h
  | peekByte k ih => intro c hc a' c' h; exact ih _ c hc a' c' h
  | readByte k ih => intro c hc a' c' h; exact ih _ _ (advance_inside hc 1) a' c' h
  | gotoNextByte k ih => intro c hc a' c' h; exact ih _ (advance_inside hc 1) a' c' h
  | readSolidBlock n k ih =>
    intro c hc a' c' h
    simp only [runA] at h
    split at h
    · exact ih _ _ (advance_inside hc n) a' c' h
    · exact ih _ c hc a' c' h
  | readExact n k ih =>
    intro c hc a' c' h
    simp only [runA] at h
    split at h
    · exact ih _ _ (advance_inside hc n) a' c' h
    · simp at h
  | setPosition q k ih =>
    intro c hc a' c' h
    simp only [runA] at h
    split at h
    · rename_i hq
      exact ih _ ⟨c.data, q⟩ ⟨hc.1, hc.1 ▸ hq⟩ a' c' h
    · cases runA_none N _ _ _ h
  | getPosition k ih => intro c hc a' c' h; exact ih _ c hc a' c' h
  | isEnd k ih => intro c hc a' c' h; exact ih _ c hc a' c' h

/-- through the stream programs: the string reader ends where `runA` does (`callProg_eq`), and `runA` never moves the
    cursor outside the data (`runA_wf`) -/
theorem callString_pos_le (o : Opts) (bs : Bytes) (pos : Nat) (hp : pos ≤ bs.length) (c : Call) (a : Ans) (p : Nat)
    (h : callString o bs pos c = .ok (a, p)) : p ≤ bs.length := by
  have h1 := callProg_eq 8 bs (Nat.le_refl _) o pos hp c
  rw [h] at h1
  exact (runA_wf 8 _ bs ⟨bs, pos⟩ ⟨rfl, hp⟩ a ⟨bs, p⟩ h1).2

end BSVerif.MsgPack.StreamModel
