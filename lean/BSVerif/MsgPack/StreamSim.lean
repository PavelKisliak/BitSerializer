/-
  Simulation: every program over the CBinaryStreamReader interface gives, on the real sliding-cache reader (any chunk
  size), the answer the abstract cursor gives — by induction over the program, from the per-operation refinement
  theorems of Props/C10bin.lean. With StreamLemmas: one entry-point call on the real reader against the string reader.
-/
import BSVerif.MsgPack.StreamLemmas
import BSVerif.Props.C10bin

namespace BSVerif.MsgPack.StreamModel
open BSVerif BSVerif.Generated BSVerif.MsgPack.Model BSVerif.BinStream
open BSVerif.Props.C10 (abs)

theorem abs_eq_iff {r : Reader} {c : Cursor} : abs r = c ↔ r.stream.data = c.data ∧ r.getPosition = c.pos := by
  cases c; simp [abs]

/-- the real reader `r` (chunk size N) stands for the abstract state `s` -/
def Rel (N : Nat) (r : Reader) : Option Cursor → Prop
  | some c => RInv r ∧ abs r = c ∧ r.N = N
  | none => True

/-- same outcome: same value and related states, or the same error -/
def Agree (N : Nat) : Except Err (α × Reader) → Except Err (α × Option Cursor) → Prop
  | .ok (a, r), .ok (a', s) => a = a' ∧ Rel N r s
  | .error e, .error e' => e = e'
  | _, _ => False

theorem Agree.error_iff {N : Nat} {x : Except Err (α × Reader)} {e : Err} : Agree N x (.error e) ↔ x = .error e := by
  cases x with
  | error e' => exact ⟨fun h => congrArg _ h, fun h => by cases h; rfl⟩
  | ok v => exact ⟨fun h => h.elim, fun h => by cases h⟩

theorem Agree.ok_iff {N : Nat} {x : Except Err (α × Reader)} {a : α} {s : Option Cursor} :
    Agree N x (.ok (a, s)) ↔ ∃ r', x = .ok (a, r') ∧ Rel N r' s := by
  cases x with
  | error e' => exact ⟨fun h => h.elim, fun ⟨_, h, _⟩ => by cases h⟩
  | ok v => exact ⟨fun ⟨h1, h2⟩ => ⟨v.2, by rw [← h1], h2⟩, fun ⟨_, h, h2⟩ => by cases h; exact ⟨rfl, h2⟩⟩

/-- the chunk loop of ReadValue(string_view&) on the real reader: all `rem` bytes, wherever the chunk boundaries fall,
    or ParsingException when fewer remain -/
theorem chunkLoop_refines (fuel : Nat) :
    ∀ (rem : Nat) (acc : Bytes) (r : Reader), rem ≤ fuel → RInv r →
      if r.getPosition + rem ≤ r.stream.data.length then
        ∃ r', chunkLoop readerSrc fuel rem acc r = .ok (acc ++ slice r.stream.data r.getPosition rem, r') ∧
          RInv r' ∧ abs r' = ⟨r.stream.data, r.getPosition + rem⟩ ∧ r'.N = r.N
      else chunkLoop readerSrc fuel rem acc r = .error .parsing := by
  induction fuel with
  | zero =>
    intro rem acc r hrem h
    have : rem = 0 := by omega
    subst this
    have hle := getPosition_le r h.base
    simp only [Nat.add_zero, hle, if_true, chunkLoop, slice_zero, List.append_nil]
    exact ⟨r, rfl, h, rfl, rfl⟩
  | succ fuel ih =>
    intro rem acc r hrem h
    have hle := getPosition_le r h.base
    cases rem with
    | zero =>
      simp only [Nat.add_zero, hle, if_true, chunkLoop, slice_zero, List.append_nil]
      exact ⟨r, rfl, h, rfl, rfl⟩
    | succ rem =>
      obtain ⟨hinv1, hN1, hchunk⟩ := BSVerif.Props.C10.readByChunks_refines r h (rem + 1)
      simp only [chunkLoop]
      rw [show readerSrc.readByChunks r (rem + 1) = r.readByChunks (rem + 1) from rfl]
      generalize hrc : r.readByChunks (rem + 1) = rc at hinv1 hN1 hchunk
      obtain ⟨ob, r1⟩ := rc
      cases ob with
      | none =>
        -- nothing returned: the cursor was at the end
        simp only at hchunk ⊢
        have hend : r.stream.data.length ≤ r.getPosition := by
          have := hchunk.1; simp [abs, Cursor.isEnd] at this; exact this
        have : ¬ (r.getPosition + (rem + 1) ≤ r.stream.data.length) := by omega
        simp only [this, if_false]
      | some b =>
        -- a chunk `b`: the slice at the cursor, at most `rem + 1` long, not empty, and the cursor has moved behind it
        simp only at hinv1 hN1 hchunk ⊢
        obtain ⟨-, hslice, hble, hbpos, hadv⟩ := hchunk
        have hbl : 0 < b.length := hbpos (by omega)
        have hbe : b.isEmpty = false := by
          cases b with
          | nil => simp at hbl
          | cons _ _ => rfl
        simp only [hbe, Bool.false_eq_true, if_false]
        -- the chunk lies inside the data
        have hin : r.getPosition + b.length ≤ r.stream.data.length := by
          have hl := congrArg List.length hslice
          rw [slice_length] at hl
          omega
        have habs : abs r1 = ⟨r.stream.data, r.getPosition + b.length⟩ := by
          rw [hadv]; simp [abs, Cursor.advance, Nat.min_eq_left hin]
        obtain ⟨hd1, hp1⟩ := abs_eq_iff.mp habs
        have hih := ih (rem + 1 - b.length) (acc ++ b) r1 (by omega) hinv1
        rw [hd1, hp1] at hih
        by_cases hfit : r.getPosition + (rem + 1) ≤ r.stream.data.length
        · have : r.getPosition + b.length + (rem + 1 - b.length) ≤ r.stream.data.length := by omega
          simp only [this, if_true] at hih
          simp only [hfit, if_true]
          obtain ⟨r', hrun, hi', ha', hn'⟩ := hih
          refine ⟨r', ?_, hi', ?_, by rw [hn', hN1]⟩
          · rw [hrun, List.append_assoc]
            have hcat : b ++ slice r.stream.data (r.getPosition + b.length) (rem + 1 - b.length) =
                slice r.stream.data r.getPosition (rem + 1) := by
              conv => lhs; lhs; rw [hslice]
              rw [slice_append]
              congr 1; omega
            rw [hcat]
          · rw [ha']; congr 1; omega
        · have : ¬ (r.getPosition + b.length + (rem + 1 - b.length) ≤ r.stream.data.length) := by omega
          simp only [this, if_false] at hih
          simp only [hfit, if_false]
          exact hih

/-- in the failed state only `ret` and `throw` are defined, and they do not touch the reader -/
theorem run_refines_dead (N : Nat) (p : Prog α) (r : Reader) (res : Except Err (α × Option Cursor))
    (h : runA N p none = some res) : Agree N (run readerSrc p r) res := by
  cases p <;> simp only [runA, Option.some.injEq, reduceCtorEq] at h <;> subst h
  · exact ⟨rfl, trivial⟩
  · rfl

theorem run_refines_live (N : Nat) (p : Prog α) :
    ∀ (r : Reader) (c : Cursor) (res : Except Err (α × Option Cursor)),
      RInv r → abs r = c → r.N = N → runA N p (some c) = some res → Agree N (run readerSrc p r) res := by
  induction p with
  | ret a =>
    intro r c res hi ha hn h
    simp only [runA, Option.some.injEq] at h
    subst h
    exact ⟨rfl, hi, ha, hn⟩
  | throw e =>
    intro r c res hi ha hn h
    simp only [runA, Option.some.injEq] at h
    subst h
    rfl
  | peekByte k ih =>
    intro r c res hi ha hn h
    obtain ⟨hval, hi', ha', hn'⟩ := BSVerif.Props.C10.peekByte_refines r hi
    simp only [runA] at h
    simp only [run, readerSrc]
    rw [hval, ha]
    exact ih _ _ _ _ hi' (by rw [ha', ha]) (by rw [hn', hn]) h
  | readByte k ih =>
    intro r c res hi ha hn h
    obtain ⟨hval, hi', ha', hn'⟩ := BSVerif.Props.C10.readByte_refines r hi
    simp only [runA] at h
    simp only [run, readerSrc]
    rw [hval, ha]
    exact ih _ _ _ _ hi' (by rw [ha', ha]) (by rw [hn', hn]) h
  | gotoNextByte k ih =>
    intro r c res hi ha hn h
    obtain ⟨hi', ha', hn'⟩ := BSVerif.Props.C10.gotoNextByte_refines r hi
    simp only [runA] at h
    simp only [run, readerSrc]
    exact ih _ _ _ hi' (by rw [ha', ha]) (by rw [hn', hn]) h
  | readSolidBlock n k ih =>
    intro r c res hi ha hn h
    -- `ha'`: the cursor moves by `n` if a block came back, else not at all
    obtain ⟨hval, hi', hn', ha'⟩ := BSVerif.Props.C10.readSolidBlock_refines r hi n
    simp only [runA] at h
    simp only [run, readerSrc]
    rw [hval, ha, hn] at ha'
    rw [hval, ha, hn]
    split at h
    · rename_i d hd
      rw [hd] at ha' ⊢
      exact ih _ _ _ _ hi' (by simpa using ha') (by rw [hn', hn]) h
    · rename_i hd
      rw [hd] at ha' ⊢
      exact ih _ _ _ _ hi' (by simpa using ha') (by rw [hn', hn]) h
  | readExact n k ih =>
    intro r c res hi ha hn h
    have hl := chunkLoop_refines n n [] r (Nat.le_refl _) hi
    obtain ⟨hd, hp⟩ := abs_eq_iff.mp ha
    rw [hd, hp] at hl
    simp only [runA, Cursor.block] at h
    simp only [run]
    by_cases hfit : c.pos + n ≤ c.data.length
    · simp only [hfit, if_true] at h hl
      obtain ⟨r', hrun, hi', ha', hn'⟩ := hl
      rw [hrun]
      simp only [List.nil_append, slice]
      refine ih _ _ _ _ hi' ?_ (by rw [hn', hn]) h
      rw [ha']; simp [Cursor.advance, Nat.min_eq_left hfit]
    · simp only [hfit, if_false] at h hl
      rw [hl]
      simp only [Option.some.injEq] at h
      subst h
      rfl
  | setPosition q k ih =>
    intro r c res hi ha hn h
    obtain ⟨hval, hinside⟩ := BSVerif.Props.C10.setPosition_refines r hi q
    rw [(abs_eq_iff.mp ha).1] at hval hinside
    simp only [runA] at h
    simp only [run, readerSrc]
    rw [hval]
    by_cases hq : q ≤ c.data.length
    · simp only [hq, if_true, decide_true] at h ⊢
      obtain ⟨hi', ha', hn'⟩ := hinside hq
      exact ih _ _ _ _ hi' ha' (by rw [hn', hn]) h
    · simp only [hq, if_false, decide_false] at h ⊢
      exact run_refines_dead N _ _ _ h
  | getPosition k ih =>
    intro r c res hi ha hn h
    simp only [runA] at h
    simp only [run, readerSrc]
    rw [(abs_eq_iff.mp ha).2]
    exact ih _ _ _ _ hi ha hn h
  | isEnd k ih =>
    intro r c res hi ha hn h
    have he := BSVerif.Props.C10.isEnd_refines r hi
    rw [ha] at he
    simp only [runA] at h
    simp only [run, readerSrc]
    rw [he]
    exact ih _ _ _ _ hi ha hn h

/-- SIMULATION: whatever program is run — as long as the abstract run is defined (no reader operation after a failed
    SetPosition) — the real reader returns the abstract answer and ends in a state that stands for the abstract state. -/
theorem run_refines (N : Nat) (p : Prog α) (r : Reader) (s : Option Cursor) (res : Except Err (α × Option Cursor))
    (hr : Rel N r s) (h : runA N p s = some res) : Agree N (run readerSrc p r) res := by
  cases s with
  | none => exact run_refines_dead N p r res h
  | some c => exact run_refines_live N p r c res hr.1 hr.2.1 hr.2.2 h

/-- one call on the real reader against the string reader: the same error, or the same answer with the stream reader
    again in a good state at the string reader's new position -/
theorem run_call (r : Reader) (h : RInv r) (hN : 8 ≤ r.N) (o : Opts) (c : Call) :
    (∃ e, run readerSrc (callProg (r.stream.data.length + 1) o c) r = .error e ∧
        callString o r.stream.data r.getPosition c = .error e) ∨
    (∃ a r' p', run readerSrc (callProg (r.stream.data.length + 1) o c) r = .ok (a, r') ∧
        callString o r.stream.data r.getPosition c = .ok (a, p') ∧
        RInv r' ∧ r'.stream.data = r.stream.data ∧ r'.getPosition = p' ∧ r'.N = r.N) := by
  have hA := callProg_eq r.N r.stream.data hN o r.getPosition (getPosition_le r h.base) c
  have hS := fun res => run_refines_live r.N (callProg (r.stream.data.length + 1) o c) r _ res h rfl rfl
  cases hs : callString o r.stream.data r.getPosition c with
  | error e =>
    rw [hs] at hA
    exact .inl ⟨e, Agree.error_iff.mp (hS _ hA), rfl⟩
  | ok v =>
    rw [hs] at hA
    obtain ⟨r', hr, hrel⟩ := Agree.ok_iff.mp (hS _ hA)
    obtain ⟨hi, ha, hn⟩ : RInv r' ∧ abs r' = ⟨r.stream.data, v.2⟩ ∧ r'.N = r.N := hrel
    obtain ⟨hd, hp⟩ := abs_eq_iff.mp ha
    exact .inr ⟨v.1, r', v.2, hr, rfl, hi, hd, hp, hn⟩

end BSVerif.MsgPack.StreamModel
