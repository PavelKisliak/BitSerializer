/-
  The GENERATED ByteCodeTable against the Spec's first-byte classification.
-/
import BSVerif.MsgPack.Reader
import BSVerif.MsgPack.Oracle

namespace BSVerif.MsgPack
open BSVerif BSVerif.MsgPack.Spec BSVerif.MsgPack.Model BSVerif.Generated

/-- the row the specification prescribes for first byte `b`, in the column layout of `ByteCodeMetaInfo` -/
def specRow (b : Nat) : List Nat :=
  let m := classify b
  [Oracle.familyCode m.family, m.embedded, m.body, m.lenBytes]

theorem table_rows : ∀ b, b < 256 → Msgpack.byteCodeTable[b]? = some (specRow b) := by decide +kernel

theorem table_length : Msgpack.byteCodeTable.length = 256 := by decide +kernel

theorem entry_eq (b : Nat) (h : b < 256) :
    entry b = ⟨Oracle.familyCode (formatOf b).family, (formatOf b).embeddedLen b, (formatOf b).fixedBody, (formatOf b).lenBytes⟩ := by
  unfold entry
  rw [table_rows b h]
  rfl

/-- beyond the table `ByteCodeTable[b]` is not a byte code -/
theorem entry_of_ge (b : Nat) (h : 256 ≤ b) : entry b = ⟨Msgpack.vtUnknown, 0, 0, 0⟩ := by
  unfold entry
  rw [List.getElem?_eq_none (by rw [table_length]; exact h)]

/-- `Family` lists its constructors in the order of the `ValueType` enumerators: the generated `vt…` codes are the constructor indices -/
theorem familyCode_inj (a b : Family) (h : Oracle.familyCode a = Oracle.familyCode b) : a = b := by
  have e : ∀ x, Oracle.familyCode x = x.ctorIdx := fun x => by cases x <;> rfl
  rw [← Family.ofNat_ctorIdx a, ← e, h, e, Family.ofNat_ctorIdx]

theorem entry_type_iff (b : Nat) (hb : b < 256) (fam : Family) :
    (entry b).type = Oracle.familyCode fam ↔ (formatOf b).family = fam := by
  rw [entry_eq b hb]
  exact ⟨familyCode_inj _ _, congrArg Oracle.familyCode⟩

/-- the ext formats: one type byte; the payload size is either fixed by the format or in a length field -/
theorem Spec.Format.ext_columns {f : Format} (b : Nat) (h : f.family = .ext) :
    f.fixedBody = 1 ∧ (f.embeddedLen b ≠ 0 ∨ f.lenBytes ≠ 0) := by
  cases f <;> simp [Format.family, Format.fixedBody, Format.embeddedLen, Format.fixextLen, Format.lenBytes] at h ⊢

end BSVerif.MsgPack
