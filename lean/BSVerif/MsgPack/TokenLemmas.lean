/-
  `Spec.decodeToken` read through the columns of the format table (`decodeToken_cons`, the one sweep over the arms of
  the Spec's decoder; the form SkipValueImpl works with, SkipLemmas), and what follows from that shape: a token is a
  non-empty prefix, it is decoded the same way whatever follows it; the `objects` balance counter is additive.
-/
import BSVerif.MsgPack.Lemmas

namespace BSVerif.MsgPack
open BSVerif BSVerif.MsgPack.Spec

theorem decUInt_eq (f : Format) (k : Nat) (r : Bytes) :
    decUInt f k r = if k ≤ r.length then some (.int (Int.ofNat (beNat (r.take k))), f, r.drop k) else none := by
  unfold decUInt; rw [takeN_eq]; split <;> rfl

theorem decSInt_eq (f : Format) (k : Nat) (r : Bytes) :
    decSInt f k r = if k ≤ r.length then some (.int (toSigned (8 * k) (beNat (r.take k))), f, r.drop k) else none := by
  unfold decSInt; rw [takeN_eq]; split <;> rfl

theorem decLenData_eq (k : Nat) (r : Bytes) :
    decLenData k r =
      if k + beNat (r.take k) ≤ r.length then
        some ((r.drop k).take (beNat (r.take k)), r.drop (k + beNat (r.take k)))
      else none := by
  unfold decLenData takeN
  by_cases c1 : k ≤ r.length
  · simp only [c1, if_true, Option.bind_some, List.length_drop]
    by_cases c2 : k + beNat (r.take k) ≤ r.length
    · have : beNat (r.take k) ≤ r.length - k := by omega
      simp [c2, this, List.drop_drop]
    · have : ¬ beNat (r.take k) ≤ r.length - k := by omega
      simp [c2, this]
  · have : ¬ k + beNat (r.take k) ≤ r.length := by omega
    simp [c1, this]

theorem decExt_eq (f : Format) (k : Nat) (r : Bytes) :
    decExt f k r =
      if k + 1 + beNat (r.take k) ≤ r.length then
        some (.ext (toSigned 8 (beNat ((r.drop k).take 1))) ((r.drop (k + 1)).take (beNat (r.take k))), f,
              r.drop (k + 1 + beNat (r.take k)))
      else none := by
  unfold decExt takeN
  by_cases c1 : k ≤ r.length
  · simp only [c1, if_true, Option.bind_some, List.length_drop]
    by_cases c2 : 1 ≤ r.length - k
    · simp only [c2, if_true, Option.bind_some, List.length_drop, List.drop_drop]
      by_cases c3 : k + 1 + beNat (r.take k) ≤ r.length
      · have : beNat (r.take k) ≤ r.length - (k + 1) := by omega
        simp [c3, this]
      · have : ¬ beNat (r.take k) ≤ r.length - (k + 1) := by omega
        simp [c3, this]
    · have : ¬ k + 1 + beNat (r.take k) ≤ r.length := by omega
      simp [c2, this]
  · have : ¬ k + 1 + beNat (r.take k) ≤ r.length := by omega
    simp [c1, this]

theorem decFixExt_eq (f : Format) (n : Nat) (r : Bytes) :
    decFixExt f n r =
      if 1 + n ≤ r.length then
        some (.ext (toSigned 8 (beNat (r.take 1))) ((r.drop 1).take n), f, r.drop (1 + n))
      else none := by
  unfold decFixExt takeN
  by_cases c1 : 1 ≤ r.length
  · simp only [c1, if_true, Option.bind_some, List.length_drop]
    by_cases c2 : 1 + n ≤ r.length
    · have : n ≤ r.length - 1 := by omega
      simp [this, Nat.add_comm]
      omega
    · have : ¬ n ≤ r.length - 1 := by omega
      simp [c2, this]
  · have : ¬ 1 + n ≤ r.length := by omega
    simp [c1, this]

/-- the formats whose count is a number of payload bytes (str, bin, ext), not a number of children -/
def Spec.Format.flat (f : Format) : Bool :=
  f.family = .string || f.family = .binaryArray || f.family = .ext

/-- the count a header carries: in the first byte / fixed by the format, or in the length field -/
def cnt (b : Nat) (r : Bytes) : Nat := (formatOf b).embeddedLen b + beNat (r.take (formatOf b).lenBytes)

/-- payload bytes behind length field and fixed body: the count, for str / bin / ext -/
def payLen (b : Nat) (r : Bytes) : Nat := if (formatOf b).flat then cnt b r else 0

/-- number of bytes a token occupies behind its first byte -/
def tokLen (b : Nat) (r : Bytes) : Nat := (formatOf b).lenBytes + (formatOf b).fixedBody + payLen b r

/-- the token of a format: first byte `b`, count `c`, fixed body `body`, payload `d` -/
def Spec.Format.token (f : Format) (b c : Nat) (body d : Bytes) : Option Token :=
  match f with
  | .posFixint => some (.int (Int.ofNat b))
  | .negFixint => some (.int (Int.ofNat b - 256))
  | .uint8 | .uint16 | .uint32 | .uint64 => some (.int (Int.ofNat (beNat body)))
  | .int8 | .int16 | .int32 | .int64 => some (.int (toSigned (8 * f.fixedBody) (beNat body)))
  | .nil => some .nil
  | .neverUsed => none
  | .false_ => some (.bool false)
  | .true_ => some (.bool true)
  | .float32 => some (.f32 (beNat body))
  | .float64 => some (.f64 (beNat body))
  | .fixstr | .str8 | .str16 | .str32 => some (.str d)
  | .bin8 | .bin16 | .bin32 => some (.bin d)
  | .fixarray | .array16 | .array32 => some (.array c)
  | .fixmap | .map16 | .map32 => some (.map c)
  | .fixext1 | .fixext2 | .fixext4 | .fixext8 | .fixext16 | .ext8 | .ext16 | .ext32 => some (.ext (toSigned 8 (beNat body)) d)

/-- the Spec's decoder, arm for arm, is the decoder that reads length field, fixed body and payload as the columns
    of the first byte's format say -/
theorem decodeToken_cons (b : Nat) (r : Bytes) :
    decodeToken (b :: r) =
      if tokLen b r ≤ r.length then
        ((formatOf b).token b (cnt b r) ((r.drop (formatOf b).lenBytes).take (formatOf b).fixedBody)
          ((r.drop ((formatOf b).lenBytes + (formatOf b).fixedBody)).take (payLen b r))).map
            fun t => (t, formatOf b, r.drop (tokLen b r))
      else none := by
  cases hf : formatOf b <;>
    simp [decodeToken, tokLen, payLen, cnt, hf, Format.token, Format.flat, Format.family, Format.lenBytes, Format.fixedBody,
      Format.embeddedLen, Format.fixextLen, decUInt_eq, decSInt_eq, decLenData_eq, decExt_eq, decFixExt_eq, takeN_eq, beNat_nil]

theorem decodeToken_eq_some {b : Nat} {r : Bytes} {t : Token} {f : Format} {rest : Bytes} :
    decodeToken (b :: r) = some (t, f, rest) ↔
      tokLen b r ≤ r.length ∧
      (formatOf b).token b (cnt b r) ((r.drop (formatOf b).lenBytes).take (formatOf b).fixedBody)
          ((r.drop ((formatOf b).lenBytes + (formatOf b).fixedBody)).take (payLen b r)) = some t ∧
      f = formatOf b ∧ rest = r.drop (tokLen b r) := by
  rw [decodeToken_cons]
  split
  · rename_i h
    simp only [Option.map_eq_some_iff, Prod.mk.injEq, h, true_and]
    constructor
    · rintro ⟨t', ht, rfl, rfl, rfl⟩; exact ⟨ht, rfl, rfl⟩
    · rintro ⟨ht, rfl, rfl⟩; exact ⟨t, ht, rfl, rfl, rfl⟩
  · rename_i h
    simp only [reduceCtorEq, h, false_and]

theorem decodeToken_eq_none {b : Nat} {r : Bytes} :
    decodeToken (b :: r) = none ↔ r.length < tokLen b r ∨ formatOf b = .neverUsed := by
  rw [decodeToken_cons]
  split
  · rename_i h
    have : ¬ r.length < tokLen b r := by omega
    simp only [Option.map_eq_none_iff, this, false_or]
    cases formatOf b <;> simp [Format.token]
  · rename_i h
    simp only [true_iff]; left; omega

theorem decodeToken_rest {bs : Bytes} {t : Token} {f : Format} {rest : Bytes} (h : decodeToken bs = some (t, f, rest)) :
    ∃ n, 0 < n ∧ n ≤ bs.length ∧ rest = bs.drop n := by
  cases bs with
  | nil => simp [decodeToken] at h
  | cons b r =>
    obtain ⟨hl, _, _, rfl⟩ := decodeToken_eq_some.mp h
    exact ⟨tokLen b r + 1, by omega, by simp only [List.length_cons]; omega, rfl⟩

theorem decodeToken_append (bs x : Bytes) (t : Token) (f : Format) (rest : Bytes)
    (h : decodeToken bs = some (t, f, rest)) : decodeToken (bs ++ x) = some (t, f, rest ++ x) := by
  cases bs with
  | nil => simp [decodeToken] at h
  | cons b r =>
    obtain ⟨hl, ht, rfl, rfl⟩ := decodeToken_eq_some.mp h
    have h1 : (formatOf b).lenBytes + (formatOf b).fixedBody ≤ r.length := by unfold tokLen at hl; omega
    have hc : cnt b (r ++ x) = cnt b r := by
      unfold cnt; rw [List.take_append_of_le_length (by omega)]
    have hp : payLen b (r ++ x) = payLen b r := by unfold payLen; rw [hc]
    have hn : tokLen b (r ++ x) = tokLen b r := by unfold tokLen; rw [hp]
    rw [List.cons_append, decodeToken_eq_some, hn, hc, hp]
    refine ⟨by simp; omega, ?_, rfl, (List.drop_append_of_le_length hl).symm⟩
    rw [← ht, List.drop_append_of_le_length (by omega), List.take_append_of_le_length (by simp; omega),
      List.drop_append_of_le_length h1, List.take_append_of_le_length (by unfold tokLen at hl; simp; omega)]

theorem Spec.Format.token_kind {f : Format} {b c : Nat} {body d : Bytes} {t : Token} (h : f.token b c body d = some t) :
    (f.family = .map ∧ t = .map c) ∨ (f.family = .array ∧ t = .array c) ∨
      (f.family ≠ .map ∧ f.family ≠ .array ∧ t.children = 0) := by
  cases f <;> simp only [Format.token, Option.some.injEq, reduceCtorEq] at h <;> subst h <;> simp [Format.family, Token.children]

theorem Spec.Format.lenBytes_cases (f : Format) (b : Nat) :
    f.lenBytes = 0 ∨ (f.embeddedLen b = 0 ∧ (f.lenBytes = 1 ∨ f.lenBytes = 2 ∨ f.lenBytes = 4)) := by
  cases f <;> simp [Format.embeddedLen, Format.fixextLen, Format.lenBytes]

theorem objectsFuel_succ (fuel : Nat) : ∀ (k : Nat) (bs : Bytes), bs.length ≤ fuel →
    objectsFuel (fuel + 1) k bs = objectsFuel fuel k bs := by
  induction fuel with
  | zero =>
    intro k bs h
    cases k with
    | zero => rfl
    | succ k =>
      have : bs = [] := List.eq_nil_of_length_eq_zero (by omega)
      subst this
      simp [objectsFuel, decodeToken]
  | succ fuel ih =>
    intro k bs h
    cases k with
    | zero => rfl
    | succ k =>
      simp only [objectsFuel]
      cases hd : decodeToken bs with
      | none => rfl
      | some v =>
        obtain ⟨t, f, rest⟩ := v
        obtain ⟨n, hn, _, rfl⟩ := decodeToken_rest hd
        exact ih _ _ (by simp only [List.length_drop]; omega)

theorem objectsFuel_eq (bs : Bytes) (k fuel : Nat) (h : bs.length ≤ fuel) : objectsFuel fuel k bs = objects k bs := by
  obtain ⟨d, rfl⟩ := Nat.exists_eq_add_of_le h
  induction d with
  | zero => rfl
  | succ d ih => rw [← Nat.add_assoc, objectsFuel_succ _ k bs (by omega), ih (by omega)]

theorem objects_zero (bs : Bytes) : objects 0 bs = some bs := by
  unfold objects; cases bs <;> rfl

theorem objects_succ (k : Nat) (bs : Bytes) :
    objects (k + 1) bs =
      match decodeToken bs with
      | none => none
      | some (t, _, rest) => objects (k + t.children) rest := by
  cases bs with
  | nil => simp [objects, objectsFuel, decodeToken]
  | cons b r =>
    unfold objects
    simp only [List.length_cons, objectsFuel]
    cases hd : decodeToken (b :: r) with
    | none => rfl
    | some v =>
      obtain ⟨t, f, rest⟩ := v
      obtain ⟨n, hn, _, rfl⟩ := decodeToken_rest hd
      exact objectsFuel_eq _ _ _ (by simp only [List.length_drop, List.length_cons]; omega)

theorem objects_induct {P : Nat → Bytes → Prop} (h0 : ∀ bs, P 0 bs)
    (hnone : ∀ k bs, decodeToken bs = none → P (k + 1) bs)
    (hstep : ∀ k bs t f rest, decodeToken bs = some (t, f, rest) → P (k + t.children) rest → P (k + 1) bs) :
    ∀ k bs, P k bs := by
  intro k bs
  induction hl : bs.length using Nat.strongRecOn generalizing k bs with
  | _ l ih =>
    cases k with
    | zero => exact h0 bs
    | succ k =>
      cases hd : decodeToken bs with
      | none => exact hnone k bs hd
      | some v =>
        obtain ⟨t, f, rest⟩ := v
        obtain ⟨n, hn, _, rfl⟩ := decodeToken_rest hd
        exact hstep k bs t f _ hd (ih _ (by simp only [List.length_drop]; omega) _ _ rfl)

theorem objects_add (a b : Nat) (bs : Bytes) : objects (a + b) bs = (objects a bs).bind (objects b) := by
  induction a, bs using objects_induct with
  | h0 bs => rw [Nat.zero_add, objects_zero, Option.bind_some]
  | hnone k bs hd => rw [Nat.add_right_comm, objects_succ, objects_succ, hd]; rfl
  | hstep k bs t f rest hd ih =>
    rw [Nat.add_right_comm, objects_succ, objects_succ, hd]
    simp only
    rw [Nat.add_right_comm, ih]

theorem objects_rest {k : Nat} {bs r : Bytes} (h : objects k bs = some r) : ∃ n, n ≤ bs.length ∧ r = bs.drop n := by
  induction k, bs using objects_induct generalizing r with
  | h0 bs => rw [objects_zero] at h; cases h; exact ⟨0, Nat.zero_le _, rfl⟩
  | hnone k bs hd => rw [objects_succ, hd] at h; cases h
  | hstep k bs t f rest hd ih =>
    rw [objects_succ, hd] at h
    obtain ⟨n, _, hn, rfl⟩ := decodeToken_rest hd
    obtain ⟨m, hm, rfl⟩ := ih h
    rw [List.length_drop] at hm
    exact ⟨n + m, by omega, by rw [List.drop_drop]⟩

theorem objects_rest_pos {k : Nat} {bs r : Bytes} (h : objects (k + 1) bs = some r) :
    ∃ n, 0 < n ∧ n ≤ bs.length ∧ r = bs.drop n := by
  rw [objects_succ] at h
  cases hd : decodeToken bs with
  | none => rw [hd] at h; cases h
  | some v =>
    rw [hd] at h
    obtain ⟨n, hn0, hn, hr⟩ := decodeToken_rest hd
    obtain ⟨m, hm, rfl⟩ := objects_rest h
    rw [hr, List.length_drop] at hm
    exact ⟨n + m, by omega, by omega, by rw [hr, List.drop_drop]⟩

theorem objects_append {k : Nat} {bs r : Bytes} (x : Bytes) (h : objects k bs = some r) :
    objects k (bs ++ x) = some (r ++ x) := by
  induction k, bs using objects_induct generalizing r with
  | h0 bs => rw [objects_zero] at h ⊢; cases h; rfl
  | hnone k bs hd => rw [objects_succ, hd] at h; cases h
  | hstep k bs t f rest hd ih =>
    rw [objects_succ, hd] at h
    rw [objects_succ, decodeToken_append bs x t f rest hd]
    exact ih h

end BSVerif.MsgPack
