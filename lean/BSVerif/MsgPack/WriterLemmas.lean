/-
  The writer model against the Spec's encoder: every `WriteValue` overload / `Begin*` emits `Spec.encodeAs f` of
  its value for some format `f`, and that format is a smallest one (lengths `minIntLen`, `hdrStr`, … of SpecLemmas).
-/
import BSVerif.MsgPack.SpecLemmas

namespace BSVerif.MsgPack
open BSVerif BSVerif.MsgPack.Spec BSVerif.MsgPack.Model

theorem uimg_eq_ofSigned (k : Nat) (v : Int) : uimg k v = ofSigned (8 * k) v := by
  simp only [uimg, ofSigned, Nat.pow_mul, Nat.reducePow]

theorem uimg_lt (k : Nat) (v : Int) : uimg k v < 256 ^ k := by
  have := ofSigned_lt (8 * k) v
  rwa [Nat.pow_mul, ← uimg_eq_ofSigned] at this

theorem uimg_of_nonneg (k : Nat) (v : Int) (h : 0 ≤ v ∧ v < Int.ofNat (256 ^ k)) : uimg k v = v.toNat := by
  rw [uimg, Int.emod_eq_of_lt h.1 h.2]

theorem uimg_natCast (k v : Nat) (h : v < 256 ^ k) : uimg k (Int.ofNat v) = v := by
  rw [uimg_of_nonneg k (Int.ofNat v) ⟨Int.natCast_nonneg v, Int.ofNat_lt.mpr h⟩]; rfl

theorem beBytes_one (n : Nat) (h : n < 256) : beBytes 1 n = [n] := by
  simp [beBytes, Nat.mod_eq_of_lt h]

theorem pushBE_length (k v : Nat) : (pushBE k v).length = k := leBytes_length k _

theorem pushBE_one (n : Nat) (h : n < 256) : pushBE 1 n = [n] := by
  rw [pushBE_eq 1 n (.inl rfl), beBytes_one n h]

/-- `v` is written in format `f`, and no format is shorter -/
def WritesInt (v : Int) (bs : Bytes) : Prop := ∃ f, encodeAs f (.int v) = some bs ∧ bs.length = minIntLen v

/-- an unsigned format of `k` bytes on `PushValue` of the unsigned image -/
theorem WritesInt.uint {f : Format} {code k : Nat} (hf : ∀ v, encodeAs f (.int v) = encUInt code k v) (hk : WidthOk k) (v : Int)
    (h : 0 ≤ v ∧ v < Int.ofNat (256 ^ k)) (hm : minIntLen v = k + 1) : WritesInt v (code :: pushBE k (uimg k v)) :=
  ⟨f, by rw [hf, encUInt_eq_some]; exact ⟨h, by rw [pushBE_eq k _ hk, uimg_of_nonneg k v h]⟩,
    by rw [List.length_cons, pushBE_length, hm]⟩

/-- a signed format of `k` bytes on `PushValue` of the unsigned image -/
theorem WritesInt.sint {f : Format} {code k : Nat} (hf : ∀ v, encodeAs f (.int v) = encSInt code k v) (hk : WidthOk k) (v : Int)
    (h : -(Int.ofNat (2 ^ (8 * k - 1))) ≤ v ∧ v < Int.ofNat (2 ^ (8 * k - 1))) (hm : minIntLen v = k + 1) :
    WritesInt v (code :: pushBE k (uimg k v)) :=
  ⟨f, by rw [hf, encSInt_eq_some]; exact ⟨h, by rw [pushBE_eq k _ hk, uimg_eq_ofSigned]⟩,
    by rw [List.length_cons, pushBE_length, hm]⟩

/-- the unsigned overloads pass a `Nat`, which is its own image -/
theorem WritesInt.uintNat {f : Format} {code k : Nat} (hf : ∀ v, encodeAs f (.int v) = encUInt code k v) (hk : WidthOk k) (v : Nat)
    (h : v < 256 ^ k) (hm : minIntLen (Int.ofNat v) = k + 1) : WritesInt (Int.ofNat v) (code :: pushBE k v) := by
  have := WritesInt.uint hf hk (Int.ofNat v) ⟨Int.natCast_nonneg v, Int.ofNat_lt.mpr h⟩ hm
  rwa [uimg_natCast k v h] at this

theorem writeU8_enc (v : Nat) (h : v < 256) : WritesInt (Int.ofNat v) (writeU8 v) := by
  have hm := minIntLen_spec (Int.ofNat v)
  unfold writeU8
  split
  · have := WritesInt.uintNat (f := .uint8) (fun _ => rfl) (.inl rfl) v h (by simp only [Int.ofNat_eq_natCast] at hm ⊢; omega)
    rwa [pushBE_one v h] at this
  · refine ⟨.posFixint, ?_, by simp only [List.length_cons, List.length_nil, Int.ofNat_eq_natCast] at hm ⊢; omega⟩
    simp only [encodeAs, Int.ofNat_eq_natCast, Int.toNat_natCast]
    rw [if_pos (by omega)]

theorem writeU16_enc (v : Nat) (h : v < 65536) : WritesInt (Int.ofNat v) (writeU16 v) := by
  have hm := minIntLen_spec (Int.ofNat v)
  unfold writeU16
  split
  · exact WritesInt.uintNat (f := .uint16) (fun _ => rfl) (by simp [WidthOk]) v h (by simp only [Int.ofNat_eq_natCast] at hm ⊢; omega)
  · exact writeU8_enc v (by omega)

theorem writeU32_enc (v : Nat) (h : v < 4294967296) : WritesInt (Int.ofNat v) (writeU32 v) := by
  have hm := minIntLen_spec (Int.ofNat v)
  unfold writeU32
  split
  · exact WritesInt.uintNat (f := .uint32) (fun _ => rfl) (by simp [WidthOk]) v h (by simp only [Int.ofNat_eq_natCast] at hm ⊢; omega)
  · exact writeU16_enc v (by omega)

theorem writeU64_enc (v : Nat) (h : v < 18446744073709551616) : WritesInt (Int.ofNat v) (writeU64 v) := by
  have hm := minIntLen_spec (Int.ofNat v)
  unfold writeU64
  split
  · exact WritesInt.uintNat (f := .uint64) (fun _ => rfl) (by simp [WidthOk]) v h (by simp only [Int.ofNat_eq_natCast] at hm ⊢; omega)
  · exact writeU32_enc v (by omega)

theorem writeI8_enc (v : Int) (h0 : -128 ≤ v) (h1 : v < 128) : WritesInt v (writeI8 v) := by
  have hm := minIntLen_spec v
  unfold writeI8
  split
  · by_cases hneg : v < 0
    · refine ⟨.negFixint, ?_, by simp only [List.length_cons, List.length_nil] at hm ⊢; omega⟩
      have hu : uimg 1 v = (v + 256).toNat := by simp only [uimg, Nat.pow_one, Int.ofNat_eq_natCast]; omega
      simp only [encodeAs, hu]
      rw [if_pos (by omega)]
    · refine ⟨.posFixint, ?_, by simp only [List.length_cons, List.length_nil] at hm ⊢; omega⟩
      simp only [encodeAs, uimg_of_nonneg 1 v ⟨by omega, by simp; omega⟩]
      rw [if_pos (by omega)]
  · have := WritesInt.sint (f := .int8) (fun _ => rfl) (.inl rfl) v ⟨by simp; omega, by simp; omega⟩ (by omega)
    rwa [pushBE_one _ (uimg_lt 1 v)] at this

theorem writeI16_enc (v : Int) (h0 : -32768 ≤ v) (h1 : v < 32768) : WritesInt v (writeI16 v) := by
  have hm := minIntLen_spec v
  unfold writeI16
  split
  · have := WritesInt.uint (f := .uint8) (fun _ => rfl) (.inl rfl) v ⟨by omega, by simp; omega⟩ (by omega)
    rwa [pushBE_one _ (uimg_lt 1 v)] at this
  · split
    · exact WritesInt.sint (f := .int16) (fun _ => rfl) (by simp [WidthOk]) v ⟨by simp; omega, by simp; omega⟩ (by omega)
    · exact writeI8_enc v (by omega) (by omega)

theorem writeI32_enc (v : Int) (h0 : -2147483648 ≤ v) (h1 : v < 2147483648) : WritesInt v (writeI32 v) := by
  have hm := minIntLen_spec v
  unfold writeI32
  split
  · exact WritesInt.uint (f := .uint16) (fun _ => rfl) (by simp [WidthOk]) v ⟨by omega, by simp; omega⟩ (by omega)
  · split
    · exact WritesInt.sint (f := .int32) (fun _ => rfl) (by simp [WidthOk]) v ⟨by simp; omega, by simp; omega⟩ (by omega)
    · exact writeI16_enc v (by omega) (by omega)

theorem writeI64_enc (v : Int) (h0 : -9223372036854775808 ≤ v) (h1 : v < 9223372036854775808) : WritesInt v (writeI64 v) := by
  have hm := minIntLen_spec v
  unfold writeI64
  split
  · exact WritesInt.uint (f := .uint32) (fun _ => rfl) (by simp [WidthOk]) v ⟨by omega, by simp; omega⟩ (by omega)
  · split
    · exact WritesInt.sint (f := .int64) (fun _ => rfl) (by simp [WidthOk]) v ⟨by simp; omega, by simp; omega⟩ (by omega)
    · exact writeI32_enc v (by omega) (by omega)

theorem writeF32_enc (b : Nat) (h : b < 2 ^ 32) : encodeAs .float32 (.f32 b) = some (writeF32 b) := by
  rw [encodeAs, if_pos h, writeF32, pushBE_eq 4 b (by simp [WidthOk])]

theorem writeF64_enc (b : Nat) (h : b < 2 ^ 64) : encodeAs .float64 (.f64 b) = some (writeF64 b) := by
  rw [encodeAs, if_pos h, writeF64, pushBE_eq 8 b (by simp [WidthOk])]

/-- `n | code` of the fix formats: the low `i` bits of the code are free, so the `or` is a sum -/
theorem or_shiftLeft (a i n : Nat) (h : n < 2 ^ i) : n ||| a <<< i = a <<< i + n := by
  rw [Nat.or_comm, Nat.shiftLeft_add_eq_or_of_lt h]

theorem writeStr_enc (d : Bytes) (h : d.length < 2 ^ 32) :
    ∃ bs f, writeStr d = .ok bs ∧ encodeAs f (.str d) = some bs ∧ bs.length = hdrStr d.length + d.length := by
  have hm := hdrStr_spec d.length
  unfold writeStr
  simp only
  split
  · rename_i h1
    refine ⟨_, .fixstr, rfl, ?_, by simp only [List.length_cons]; omega⟩
    rw [encodeAs, if_pos h1, show d.length ||| 0xA0 = 0xA0 + d.length from or_shiftLeft 5 5 _ h1]
  · split
    · refine ⟨_, .str8, rfl, ?_, by simp only [List.length_cons]; omega⟩
      rw [encodeAs, encLenData, if_pos (by omega), beBytes_one _ (by omega)]; rfl
    · split
      · refine ⟨_, .str16, rfl, ?_, by
          simp only [List.length_cons, List.length_append, pushBE_length]; omega⟩
        rw [encodeAs, encLenData, if_pos (by omega), pushBE_eq 2 _ (by simp [WidthOk])]
      · rw [if_pos (by omega)]
        refine ⟨_, .str32, rfl, ?_, by
          simp only [List.length_cons, List.length_append, pushBE_length]; omega⟩
        rw [encodeAs, encLenData, if_pos (by omega), pushBE_eq 4 _ (by simp [WidthOk])]

theorem beginArray_enc (n : Nat) (h : n < 2 ^ 32) :
    ∃ bs f, beginArray n = .ok bs ∧ encodeAs f (.array n) = some bs ∧ bs.length = hdrCnt n := by
  have hm := hdrCnt_spec n
  unfold beginArray
  split
  · rename_i h1
    exact ⟨_, .fixarray, rfl, by rw [encodeAs, if_pos h1, show n ||| 0x90 = 0x90 + n from or_shiftLeft 9 4 n h1], by simp only [List.length_cons, List.length_nil]; omega⟩
  · split
    · refine ⟨_, .array16, rfl, ?_, by simp only [List.length_cons, pushBE_length]; omega⟩
      rw [encodeAs, encCount, if_pos (by omega), pushBE_eq 2 _ (by simp [WidthOk])]
    · rw [if_pos (by omega)]
      refine ⟨_, .array32, rfl, ?_, by simp only [List.length_cons, pushBE_length]; omega⟩
      rw [encodeAs, encCount, if_pos (by omega), pushBE_eq 4 _ (by simp [WidthOk])]

theorem beginMap_enc (n : Nat) (h : n < 2 ^ 32) :
    ∃ bs f, beginMap n = .ok bs ∧ encodeAs f (.map n) = some bs ∧ bs.length = hdrCnt n := by
  have hm := hdrCnt_spec n
  unfold beginMap
  split
  · rename_i h1
    exact ⟨_, .fixmap, rfl, by rw [encodeAs, if_pos h1, show n ||| 0x80 = 0x80 + n from or_shiftLeft 8 4 n h1], by simp only [List.length_cons, List.length_nil]; omega⟩
  · split
    · refine ⟨_, .map16, rfl, ?_, by simp only [List.length_cons, pushBE_length]; omega⟩
      rw [encodeAs, encCount, if_pos (by omega), pushBE_eq 2 _ (by simp [WidthOk])]
    · rw [if_pos (by omega)]
      refine ⟨_, .map32, rfl, ?_, by simp only [List.length_cons, pushBE_length]; omega⟩
      rw [encodeAs, encCount, if_pos (by omega), pushBE_eq 4 _ (by simp [WidthOk])]

/-- `BeginBinary(n)` followed by the `n` data bytes `d` that `WriteBinary` appends -/
theorem beginBinary_enc (d : Bytes) (h : d.length < 2 ^ 32) :
    ∃ hdr f, beginBinary d.length = .ok hdr ∧ encodeAs f (.bin d) = some (hdr ++ d) ∧ hdr.length = hdrBin d.length := by
  have hm := hdrBin_spec d.length
  unfold beginBinary
  split
  · refine ⟨_, .bin8, rfl, ?_, by simp only [List.length_cons, List.length_nil]; omega⟩
    rw [encodeAs, encLenData, if_pos (by omega), beBytes_one _ (by omega)]
  · split
    · refine ⟨_, .bin16, rfl, ?_, by simp only [List.length_cons, pushBE_length]; omega⟩
      rw [encodeAs, encLenData, if_pos (by omega), pushBE_eq 2 _ (by simp [WidthOk])]
    · rw [if_pos (by omega)]
      refine ⟨_, .bin32, rfl, ?_, by simp only [List.length_cons, pushBE_length]; omega⟩
      rw [encodeAs, encLenData, if_pos (by omega), pushBE_eq 4 _ (by simp [WidthOk])]

/-- seconds in 0..2^34-1: timestamp 32 when possible, else timestamp 64 — exactly the spec's choice and layout -/
theorem writeTs_small (s ns : Int) (hs0 : 0 ≤ s) (hs1 : s < 17179869184) (hn0 : 0 ≤ ns) (hn1 : ns ≤ 999999999) :
    ∃ f, encodeAs f (.ext timestampType (encodeTimestamp s ns.toNat)) = some (writeTs s ns)
      ∧ (writeTs s ns).length = 2 + (encodeTimestamp s ns.toNat).length := by
  have hu : uimg 8 s = s.toNat := uimg_of_nonneg 8 s ⟨hs0, by simp; omega⟩
  have hun : uimg 8 ns = ns.toNat := uimg_of_nonneg 8 ns ⟨hn0, by simp; omega⟩
  unfold writeTs encodeTimestamp
  rw [hu, hun]
  have hq : s.toNat / 2 ^ 34 = 0 := by omega
  rw [if_pos hq, if_pos (show 0 ≤ s ∧ s < 2 ^ 34 from ⟨hs0, by simpa using hs1⟩)]
  have hm : ns.toNat * 2 ^ 34 % 2 ^ 64 = ns.toNat * 2 ^ 34 := Nat.mod_eq_of_lt (by omega)
  simp only [hm]
  by_cases hc : ns = 0 ∧ s < 2 ^ 32
  · obtain ⟨rfl, hs2⟩ := hc
    have h1 : ((0 : Int).toNat * 2 ^ 34 + s.toNat) / 2 ^ 32 = 0 := by simp at hs2 ⊢; omega
    have h2 : ((0 : Int).toNat * 2 ^ 34 + s.toNat) % 2 ^ 32 = s.toNat := by simp at hs2 ⊢; omega
    rw [if_pos h1, if_pos (show (0 : Int).toNat = 0 ∧ s < 2 ^ 32 from ⟨rfl, hs2⟩), h2, pushBE_eq 4 _ (by simp [WidthOk])]
    exact ⟨.fixext4, encFixExt_eq_some.mpr ⟨⟨beBytes_length 4 _, by decide⟩, rfl⟩, by simp [timestamp32]⟩
  · have h1 : ¬ ((ns.toNat * 2 ^ 34 + s.toNat) / 2 ^ 32 = 0) := by
      intro h
      apply hc
      have : ns.toNat * 2 ^ 34 + s.toNat < 2 ^ 32 := by omega
      constructor <;> omega
    have h3 : ¬ (ns.toNat = 0 ∧ s < 2 ^ 32) := by
      intro h; apply hc; exact ⟨by omega, h.2⟩
    rw [if_neg h1, if_neg h3, pushBE_eq 8 _ (by simp [WidthOk])]
    exact ⟨.fixext8, encFixExt_eq_some.mpr ⟨⟨beBytes_length 8 _, by decide⟩, rfl⟩, by simp [timestamp64]⟩

/-- seconds outside 0..2^34-1: ext 8 of 12 bytes, SECONDS FIRST (the specification puts the nanoseconds first) -/
theorem writeTs_large (s ns : Int) (hs : s < 0 ∨ 17179869184 ≤ s) (hs0 : -9223372036854775808 ≤ s) (hs1 : s < 9223372036854775808)
    (hn0 : 0 ≤ ns) (hn1 : ns ≤ 999999999) :
    encodeAs .ext8 (.ext timestampType (beBytes 8 (ofSigned 64 s) ++ beBytes 4 ns.toNat)) = some (writeTs s ns)
    ∧ (writeTs s ns).length = 15 := by
  have hq : ¬ (uimg 8 s / 2 ^ 34 = 0) := by simp [uimg]; omega
  unfold writeTs
  rw [if_neg hq, uimg_of_nonneg 4 ns ⟨hn0, by simp; omega⟩, pushBE_eq 8 _ (by simp [WidthOk]), pushBE_eq 4 _ (by simp [WidthOk]),
    uimg_eq_ofSigned]
  exact ⟨encExt_eq_some.mpr ⟨⟨by simp, by decide⟩, by simp [beBytes, timestampType]; decide⟩, by simp⟩

end BSVerif.MsgPack
