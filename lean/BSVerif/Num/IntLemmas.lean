/-
  The integer types of the numeric-conversion area: `IntTy.wrap` is `IntCast.wrap`, `IntTy.Fits` is
  `IntCast.InRange`, and what the ranges contain, for any width; `IntTy.Valid` only supplies bounds on `bits`.
-/
import BSVerif.Num.Model
import BSVerif.IntCast

namespace BSVerif.Num

theorem IntTy.Valid.pos {t : IntTy} (h : t.Valid) : 0 < t.bits := by
  unfold IntTy.Valid at h; omega

theorem IntTy.Valid.le_64 {t : IntTy} (h : t.Valid) : t.bits ≤ 64 := by
  unfold IntTy.Valid at h; omega

theorem IntTy.Valid.one_lt {t : IntTy} (h : t.Valid) : 1 < t.bits := by
  unfold IntTy.Valid at h; omega

theorem IntTy.wrap_eq (t : IntTy) (hb : 0 < t.bits) (v : Int) : t.wrap v = IntCast.wrap t.signed (2 ^ (t.bits - 1)) v := by
  unfold IntTy.wrap
  rw [IntCast.two_pow_bits hb]
  cases t.signed
  · simp only [IntCast.wrap, Bool.false_eq_true, false_and, if_false]
  · exact IntCast.wrap_signed_eq_shift (IntCast.two_pow_pos _) v

theorem IntTy.fits_iff (t : IntTy) (hb : 0 < t.bits) (v : Int) : t.Fits v ↔ IntCast.InRange t.signed (2 ^ (t.bits - 1)) v := by
  simp only [IntTy.Fits, IntTy.lo, IntTy.hi, IntCast.InRange, IntCast.two_pow_bits hb]

theorem IntTy.wrap_of_fits (t : IntTy) (hb : 0 < t.bits) (v : Int) (h : t.Fits v) : t.wrap v = v := by
  rw [t.wrap_eq hb, IntCast.wrap_of_mem (IntCast.two_pow_pos _) ((t.fits_iff hb v).1 h)]

theorem IntTy.fits_bool (t : IntTy) (hb : 1 < t.bits) {x : Int} (hx : x = 0 ∨ x = 1) : t.Fits x := by
  have h1 := IntCast.two_pow_bits (b := t.bits - 1) (by omega)
  have h2 := IntCast.two_pow_pos (t.bits - 1 - 1)
  simp only [IntTy.Fits, IntTy.lo, IntTy.hi, IntCast.two_pow_bits (show 0 < t.bits by omega)]
  split <;> omega

/-- the bounds are those of `int64_t` and `uint64_t` together -/
theorem IntTy.fits_bounds (t : IntTy) (hb : 0 < t.bits) (h64 : t.bits ≤ 64) {v : Int} (h : t.Fits v) :
    -(2 ^ 63 : Int) ≤ v ∧ v ≤ 2 ^ 64 - 1 := by
  have h1 := IntCast.two_pow_le (show t.bits - 1 ≤ 63 by omega)
  have h2 := IntCast.two_pow_le h64
  have h3 := IntCast.two_pow_bits hb
  have h4 := IntCast.two_pow_pos (t.bits - 1)
  simp only [IntTy.Fits, IntTy.lo, IntTy.hi] at h
  split at h <;> omega

theorem IntTy.fits_natCast_iff (t : IntTy) (hu : t.signed = false) (n : Nat) : t.Fits n ↔ n < 2 ^ t.bits := by
  have : ((2 ^ t.bits : Nat) : Int) = 2 ^ t.bits := Int.natCast_pow 2 t.bits
  simp only [IntTy.Fits, IntTy.lo, IntTy.hi, hu, Bool.false_eq_true, if_false]
  omega

theorem IntTy.natAbs_lt_of_fits (t : IntTy) (hb : 0 < t.bits) {v : Int} (h : t.Fits v) : v.natAbs < 2 ^ t.bits := by
  have h1 : ((2 ^ t.bits : Nat) : Int) = 2 ^ t.bits := Int.natCast_pow 2 t.bits
  have h2 := IntCast.two_pow_bits hb
  have h3 := IntCast.two_pow_pos (t.bits - 1)
  simp only [IntTy.Fits, IntTy.lo, IntTy.hi] at h
  split at h <;> omega

end BSVerif.Num
