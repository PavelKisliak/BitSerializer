/-
  The branches of `Detail::To` as case distinctions on the source value: integer ↔ integer and integer ↔ bool
  for any widths; integer → floating under the laws assumed of the hardware operations (`FloatLaws`), which
  the toy instance at the end shows to be consistent.
-/
import BSVerif.Num.IntLemmas

namespace BSVerif.Num

/-- cast, cast back, compare, compare signs = range test, whatever the two widths -/
theorem convIntInt_exact (S T : IntTy) (hS : 0 < S.bits) (hT : 0 < T.bits) (v : Int) (hv : S.Fits v) :
    convIntInt S T v = if T.Fits v then .ok v else .err .outOfRange := by
  -- the left side is the condition of the `if` in `convIntInt`, with both `wrap`s as `IntCast.wrap`
  have hiff : _ ↔ T.Fits v := (IntCast.castBack_iff (ts := T.signed) (IntCast.two_pow_pos _) (IntCast.two_pow_pos (T.bits - 1)) ((S.fits_iff hS v).1 hv)).trans
    (T.fits_iff hT v).symm
  simp only [convIntInt, S.wrap_eq hS, T.wrap_eq hT]
  by_cases h : T.Fits v
  · rw [if_pos (hiff.2 h), if_pos h, ← T.wrap_eq hT, T.wrap_of_fits hT v h]
  · rw [if_neg (mt hiff.1 h), if_neg h]

theorem convIntBool_exact (S : IntTy) (hb : 1 < S.bits) (v : Int) :
    convIntBool S v = if 0 ≤ v ∧ v ≤ 1 then .ok v else .err .outOfRange := by
  have hpos : 0 < S.bits := by omega
  unfold convIntBool
  by_cases h0 : v = 0
  · subst h0
    simp [S.wrap_of_fits hpos 0 (S.fits_bool hb (.inl rfl))]
  · simp only [ne_eq, h0, not_false_eq_true, if_true, S.wrap_of_fits hpos 1 (S.fits_bool hb (.inr rfl))]
    by_cases h1 : v = 1
    · subst h1; simp
    · rw [if_neg (Ne.symm h1), if_neg (by omega)]

theorem convBoolInt_exact (T : IntTy) (hb : 1 < T.bits) (x : Int) (hx : x = 0 ∨ x = 1) :
    convBoolInt T x = .ok x := by
  simp only [convBoolInt, T.wrap_of_fits (by omega) x (T.fits_bool hb hx)]
  rcases hx with rfl | rfl <;> simp

/-- convert the integer `v` to format `F`, then truncate back to an integer -/
def FloatOps.tr (ops : FloatOps) (F : FloatFmt) (v : Int) : Option Int := ops.toInt F (ops.ofInt F v)

/-- bound of the integers that occur: all integer types have at most 64 bits -/
def Small (v : Int) : Prop := -(2 ^ 64 : Int) ≤ v ∧ v ≤ 2 ^ 64

/-- What is assumed of the hardware operations (the hypothesis `L` of the integer → floating theorems of C04), each law
    about `tr` on integers within `Small`; `toyOps_laws` shows the laws consistent, `C04.refOps_laws_sample` tests them on
    the IEEE reference instance. -/
structure FloatLaws (ops : FloatOps) : Prop where
  /-- an integer of at most 65 bits converts to a finite value (binary32 reaches 2^128) -/
  tr_some : ∀ F v, Small v → ∃ t, ops.tr F v = some t
  /-- conversion from integer is monotone (any rounding mode) -/
  tr_mono : ∀ F v w t u, Small v → Small w → v ≤ w → ops.tr F v = some t → ops.tr F w = some u → t ≤ u
  /-- zero and powers of two up to 2^64 are exactly representable -/
  tr_zero : ∀ F, ops.tr F 0 = some 0
  tr_pow2 : ∀ F k, k ≤ 64 → ops.tr F (2 ^ k) = some (2 ^ k) ∧ ops.tr F (-(2 ^ k)) = some (-(2 ^ k))
  /-- `<` on two converted integers agrees with `<` on their (integral) values -/
  lt_tr : ∀ F v w t u, Small v → Small w → ops.tr F v = some t → ops.tr F w = some u →
    ops.lt F (ops.ofInt F v) F (ops.ofInt F w) = decide (t < u)
  /-- converting 0 gives +0.0 -/
  ofInt_zero : ∀ F, ops.ofInt F 0 = fzero

theorem IntTy.fits_small (S : IntTy) (hS : S.Valid) (v : Int) (hv : S.Fits v) : Small v := by
  have := S.fits_bounds hS.pos hS.le_64 hv
  unfold Small; omega

/-- the integer that `upperBound` converts is `hi + 1`, a power of two -/
theorem IntTy.bound_pow2 (S : IntTy) (hS : S.Valid) : ∃ k, k ≤ 64 ∧ (S.hi / 2 + 1) * 2 = 2 ^ k ∧ S.hi + 1 = 2 ^ k := by
  have hb := hS.one_lt
  have h1 := IntCast.two_pow_bits (b := S.bits) (by omega)
  have h2 := IntCast.two_pow_bits (b := S.bits - 1) (by omega)
  unfold IntTy.hi
  cases S.signed
  · exact ⟨S.bits, hS.le_64, by simp only [Bool.false_eq_true, if_false]; omega, by simp⟩
  · exact ⟨S.bits - 1, by have := hS.le_64; omega, by simp only [if_true]; omega, by simp⟩

theorem FloatLaws.tr_lo {ops : FloatOps} (L : FloatLaws ops) (S : IntTy) (hS : S.Valid) (F : FloatFmt) :
    ops.tr F S.lo = some S.lo := by
  unfold IntTy.lo
  split
  · exact (L.tr_pow2 F (S.bits - 1) (by have := hS.le_64; omega)).2
  · exact L.tr_zero F

/-- The integer → floating branch, completely: exact value when the conversion is exact, else out_of_range;
    in particular the cast back is never evaluated outside its defined range. -/
theorem convIntFloat_cases (ops : FloatOps) (L : FloatLaws ops) (S : IntTy) (hS : S.Valid) (F : FloatFmt)
    (v : Int) (hv : S.Fits v) :
    convIntFloat ops S F v = if ops.tr F v = some v then .ok (ops.ofInt F v) else .err .outOfRange := by
  have hsm := S.fits_small hS v hv
  obtain ⟨t, ht⟩ := L.tr_some F v hsm
  obtain ⟨k, hk, hub, hhi⟩ := S.bound_pow2 hS
  have hsmk : Small (2 ^ k : Int) := ⟨by have := IntCast.two_pow_pos k; omega, IntCast.two_pow_le hk⟩
  have hguard : ops.lt F (ops.ofInt F v) F (upperBound ops S F) = decide (t < 2 ^ k) := by
    unfold upperBound; rw [hub]
    exact L.lt_tr F v (2 ^ k) t (2 ^ k) hsm hsmk ht (L.tr_pow2 F k hk).1
  have hlow : S.lo ≤ t :=
    L.tr_mono F S.lo v S.lo t (S.fits_small hS _ ⟨Int.le_refl _, Int.le_trans hv.1 hv.2⟩) hsm hv.1 (L.tr_lo S hS F) ht
  unfold convIntFloat
  simp only [hguard]
  by_cases hlt : t < 2 ^ k
  · have hfit : S.Fits t := ⟨hlow, by omega⟩
    have hcast : castFloatToInt ops F S (ops.ofInt F v) = some t := by
      unfold castFloatToInt
      have : ops.toInt F (ops.ofInt F v) = some t := ht
      simp [this, hfit]
    simp only [hlt, decide_true, not_true_eq_false, ↓reduceIte, hcast]
    have h0s : Small 0 := by simp [Small]
    have hpos : ops.lt F fzero F (ops.ofInt F v) = decide (0 < t) := by
      rw [← L.ofInt_zero F]; exact L.lt_tr F 0 v 0 t h0s hsm (L.tr_zero F) ht
    have hneg : ops.lt F (ops.ofInt F v) F fzero = decide (t < 0) := by
      rw [← L.ofInt_zero F]; exact L.lt_tr F v 0 t 0 hsm h0s ht (L.tr_zero F)
    simp only [hpos, hneg, ht]
    by_cases htv : t = v
    · subst htv
      have h1 : ¬ (0 < t ∧ t < 0) := by omega
      have h2 : ¬ (t < 0 ∧ t > 0) := by omega
      simp [h1, h2]
    · have : ¬ (some t = some v) := by simpa using htv
      simp [htv, this]
  · have hne : ¬ (some t = some v) := by
      intro h; have := Option.some.inj h; have := hv.2; omega
    simp [hlt, ht, hne]

theorem convBoolFloat_no_ub (ops : FloatOps) (F : FloatFmt) (x : Int) (w : String) :
    convBoolFloat ops F x ≠ .ub w := by
  unfold convBoolFloat; dsimp only; repeat' split <;> simp

theorem convFloatFloat_no_ub (ops : FloatOps) (S T : FloatFmt) (b : Nat) (w : String) :
    convFloatFloat ops S T b ≠ .ub w := by
  unfold convFloatFloat; split <;> simp

/-- The toy instance, floats that are integers, shows that the laws are consistent.
    An integer as a natural "bit pattern": 2·|v| + sign. -/
def toyEnc (v : Int) : Nat := 2 * v.natAbs + (if v < 0 then 1 else 0)
def toyDec (b : Nat) : Int := if b % 2 = 1 then -((b / 2 : Nat) : Int) else ((b / 2 : Nat) : Int)

theorem toyDec_enc (v : Int) : toyDec (toyEnc v) = v := by
  unfold toyDec toyEnc; split <;> split <;> omega

def toyOps : FloatOps :=
  ⟨fun _ v => toyEnc v, fun _ b => some (toyDec b), fun _ _ b => b,
   fun _ a _ b => decide (toyDec a ≤ toyDec b), fun _ a _ b => decide (toyDec a < toyDec b)⟩

theorem toyOps_laws : FloatLaws toyOps := by
  have tr : ∀ F v, toyOps.tr F v = some v := fun F v => congrArg some (toyDec_enc v)
  refine ⟨fun F v _ => ⟨v, tr F v⟩, ?_, fun F => tr F 0, fun F k _ => ⟨tr F _, tr F _⟩, ?_, fun F => rfl⟩
  · intro F v w t u _ _ h h1 h2
    rw [tr, Option.some.injEq] at h1 h2; omega
  · intro F v w t u _ _ h1 h2
    rw [tr, Option.some.injEq] at h1 h2
    subst h1 h2
    simp only [toyOps, toyDec_enc]

end BSVerif.Num
