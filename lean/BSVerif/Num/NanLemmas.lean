/-
  The reference conversion binary64 → binary32 (`cvt`, Num/Ieee.lean) maps a NaN to a NaN: the quiet bit it
  sets keeps the significand field non-zero.
-/
import BSVerif.Num.Ieee

namespace BSVerif.Num

/-- the exponent and significand fields of a pattern assembled from its three fields -/
theorem fields_of_sum {M E k e q : Nat} (hq : q < M) (he : e < E) :
    (k * (E * M) + e * M + q) / M % E = e ∧ (k * (E * M) + e * M + q) % M = q := by
  have hM : 0 < M := Nat.lt_of_le_of_lt (Nat.zero_le _) hq
  have h : k * (E * M) + e * M + q = q + M * (e + E * k) := by
    rw [Nat.mul_add, Nat.mul_comm M e, Nat.mul_comm M (E * k), Nat.mul_comm E k, Nat.mul_assoc]; omega
  rw [h, Nat.add_mul_div_left _ _ hM, Nat.div_eq_of_lt hq, Nat.zero_add, Nat.add_mul_mod_self_left, Nat.mod_eq_of_lt he,
    Nat.add_mul_mod_self_left, Nat.mod_eq_of_lt hq]
  exact ⟨rfl, rfl⟩

theorem decode_nan_bits (sg q : Nat) (hs : sg = 0 ∨ sg = 2 ^ 31) (hq1 : 0 < q) (hq2 : q < 2 ^ 23) :
    decode .f32 (sg + (2 ^ 8 - 1) * 2 ^ 23 + q) = .nan := by
  obtain ⟨k, rfl⟩ : ∃ k, sg = k * (2 ^ 8 * 2 ^ 23) :=
    hs.elim (fun h => ⟨0, h.trans (Nat.zero_mul _).symm⟩) (fun h => ⟨1, h.trans (Nat.one_mul _).symm⟩)
  obtain ⟨e1, e2⟩ := fields_of_sum (k := k) hq2 (show 2 ^ 8 - 1 < 2 ^ 8 by decide)
  simp only [decode, fexp, fmant, FloatFmt.mantBits, FloatFmt.expBits, FloatFmt.expMax, e1, e2, if_true, Nat.ne_of_gt hq1, if_false]

theorem cvt_nan_is_nan (b : Nat) (h : decode .f64 b = .nan) : isNaN .f32 (cvt .f64 .f32 b) = true := by
  have hne : (FloatFmt.f64 = FloatFmt.f32) = False := by simp
  unfold cvt
  simp only [hne, if_false, h, FloatFmt.mantBits, FloatFmt.signBit, FloatFmt.infBits, FloatFmt.expMax, FloatFmt.expBits, FloatFmt.width,
    show ¬ ((52 : Nat) ≤ 23) by decide]
  have hp23 : fmant .f64 b / 2 ^ (52 - 23) < 2 ^ 23 := Nat.div_lt_of_lt_mul (Nat.mod_lt _ (by decide))
  generalize fmant .f64 b / 2 ^ (52 - 23) = p at *
  have hq1 : 0 < p ||| 2 ^ (23 - 1) := Nat.lt_of_lt_of_le (by decide) Nat.right_le_or
  have hq2 : p ||| 2 ^ (23 - 1) < 2 ^ 23 := Nat.or_lt_two_pow hp23 (by decide)
  generalize p ||| 2 ^ (23 - 1) = q at *
  unfold isNaN
  rw [decode_nan_bits _ q _ hq1 hq2]
  · rfl
  · split
    · exact .inr rfl
    · exact .inl rfl

end BSVerif.Num
