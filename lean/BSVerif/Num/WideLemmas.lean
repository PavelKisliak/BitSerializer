/-
  Width independence of the text parsers (C16): what `Utf8::Encode` (Skip policy, default mark) does to the
  parts of a numeric literal held in 16/32-bit code units, and what `Utf8::Decode` does to printed ASCII digits.
-/
import BSVerif.Num.TextLemmas
import BSVerif.Utf.Heads

namespace BSVerif.Num
open BSVerif.Utf

/-! Up to `decode8_ascii_out`: facts about the generic loop `Utf.run`, the recognisers and `decode8` alone, with nothing numeric in them. -/

/-- output of the loop `run` under Skip with mark `m`, as a function of the input alone -/
def skipOut (hd : Nat → List Nat → Ev) (emit : Nat → List Nat) (m : List Nat) : List Nat → List Nat
  | [] => []
  | u :: rest =>
    match hd u rest with
    | .scalar c k => emit c ++ skipOut hd emit m (rest.drop k)
    | .bad k => m ++ skipOut hd emit m (rest.drop k)
    | .short => []
termination_by l => l.length
decreasing_by all_goals (simp [List.length_drop]; omega)

theorem run_skip_out (hd : Nat → List Nat → Ev) (emit : Nat → List Nat) (m l : List Nat) (pos : Nat) (out : List Nat) (inv : Nat) :
    (run hd emit .skip (some m) l pos out inv).out = out ++ skipOut hd emit m l := by
  fun_induction run hd emit .skip (some m) l pos out inv
  -- the cases are the equations of `run` (Utf/Run.lean) in order
  -- input used up
  case case1 => rw [skipOut, List.append_nil]
  -- a scalar at the head
  case case2 u rest pos out inv c k h ih => rw [ih, skipOut, h, List.append_assoc]
  -- ill-formed and `handleError` gives up: not under Skip with a mark
  case case3 h hx => cases hx
  -- ill-formed and `handleError` has appended the mark
  case case4 u rest pos out inv k h out' hx ih =>
    cases hx
    rw [ih, skipOut, h, List.append_assoc]
  -- a sequence cut by the end of the input
  case case5 u rest pos out inv h => rw [skipOut, h, List.append_nil]

theorem emit8_head (x : Nat) (hx : x < 0x110000) : ∃ b tl, emit8 x = b :: tl ∧ 0x80 ≤ b := by
  unfold emit8
  by_cases h1 : x < 0x800
  · exact ⟨0xC0 + x / 64, [0x80 + x % 64], by simp [h1], by omega⟩
  · by_cases h2 : x < 0x10000
    · exact ⟨0xE0 + x / 4096, [0x80 + x / 64 % 64, 0x80 + x % 64], by simp [h1, h2], by omega⟩
    · refine ⟨(0xF0 ||| x / 262144) % 256, [0x80 + x / 4096 % 64, 0x80 + x / 64 % 64, 0x80 + x % 64], by simp [h1, h2], ?_⟩
      rw [lor_F0 _ (by omega)]; omega

/-- the scalar recognised at a non-ASCII unit is not ASCII either -/
theorem headW_scalar_nonascii {w : Nat} (hw : w = 16 ∨ w = 32) {u : Nat} {rest : List Nat} {c k : Nat} (hu : ¬ u < 0x80)
    (hlt : u < 2 ^ w) (h : headW w u rest = .scalar c k) : 0x80 ≤ c ∧ c < 0x110000 := by
  obtain ⟨hc, he⟩ := headW_sound hw (fun e => e ▸ hlt) h
  refine ⟨Nat.le_of_not_lt fun hc80 => hu ?_, hc.1⟩
  have : Spec.enc w c = [c] := by
    rcases hw with rfl | rfl
    · exact enc16_1 (Nat.lt_trans hc80 (by decide))
    · rfl
  rw [this] at he
  exact (List.cons.inj he).1 ▸ hc80

theorem decode8_ascii_out (w : Nat) (pol : Policy) (mark : Option (List Nat)) (l : List Nat) (h : ∀ u ∈ l, u < 0x80)
    (pos : Nat) (out : List Nat) (inv : Nat) :
    (decode8 w pol mark l pos out inv).out = out ++ l := by
  induction l generalizing pos out with
  | nil => simp [decode8]
  | cons b rest ih =>
    rw [decode8_step1 w b (h b (by simp)), ih (fun x hx => h x (by simp [hx]))]; simp

/-- what `Utf8::Encode` writes under Skip with mark `m` -/
def narrowF (wi : Nat) (m : List Nat) : List Nat → List Nat := skipOut (headW wi) emitE8 m

theorem narrow_eq (w : Nat) (s : List Nat) : narrow w s = narrowF w defaultMark8 s := by
  rw [narrow, utf8Encode, encode8_eq_run, run_skip_out]; rfl

theorem narrowF_nil (wi : Nat) (m : List Nat) : narrowF wi m [] = [] := by rw [narrowF, skipOut]

theorem narrowF_ascii (wi : Nat) (m : List Nat) (u : Nat) (rest : List Nat) (h : u < 0x80) :
    narrowF wi m (u :: rest) = u :: narrowF wi m rest := by
  rw [narrowF, skipOut, headW.eq_def, if_pos h]; simp only [emitE8, if_pos h]; rfl

theorem narrowF_of_ascii (w : Nat) (m : List Nat) (s : List Nat) (h : ∀ u ∈ s, u < 0x80) : narrowF w m s = s := by
  induction s with
  | nil => exact narrowF_nil w m
  | cons u rest ih =>
    rw [narrowF_ascii _ _ _ _ (h u (by simp)), ih (fun x hx => h x (by simp [hx]))]

/-- every element is a value of the `w`-bit code unit type (`headW_sound` is about such units only) -/
def Units (w : Nat) (s : List Nat) : Prop := ∀ u ∈ s, u < 2 ^ w

theorem Units.tail {w u} {s : List Nat} (h : Units w (u :: s)) : Units w s := fun x hx => h x (by simp [hx])
theorem Units.head {w u} {s : List Nat} (h : Units w (u :: s)) : u < 2 ^ w := h u (by simp)

theorem Units.drop {w : Nat} {s : List Nat} (h : Units w s) (n : Nat) : Units w (s.drop n) :=
  fun x hx => h x (List.mem_of_mem_drop hx)

theorem Units.dropWhile {w : Nat} {s : List Nat} (h : Units w s) (p : Nat → Bool) : Units w (s.dropWhile p) :=
  fun x hx => h x ((List.dropWhile_sublist p).subset hx)

/-- a non-ASCII code unit never turns into an ASCII byte: the narrowed text is empty there or continues with a byte ≥ 0x80 -/
theorem narrowF_nonascii (w : Nat) (hw : w = 16 ∨ w = 32) (u : Nat) (rest : List Nat) (hu : ¬ u < 0x80)
    (hU : Units w (u :: rest)) :
    narrowF w defaultMark8 (u :: rest) = [] ∨ ∃ b tl, narrowF w defaultMark8 (u :: rest) = b :: tl ∧ 0x80 ≤ b := by
  rw [narrowF, skipOut]
  cases h : headW w u rest with
  | short => exact .inl rfl
  | bad k => exact .inr ⟨0xE2, _, rfl, by decide⟩
  | scalar c k =>
    obtain ⟨hc1, hc2⟩ := headW_scalar_nonascii hw hu hU.head h
    obtain ⟨b, tl, he, hb⟩ := emit8_head c hc2
    exact .inr ⟨b, tl ++ _, by simp only [emitE8, if_neg (Nat.not_lt.2 hc1), he]; rfl, hb⟩

theorem narrowF_takeWhile (w : Nat) (hw : w = 16 ∨ w = 32) (s : List Nat) (hU : Units w s) :
    (narrowF w defaultMark8 s).takeWhile isDigit = s.takeWhile isDigit := by
  induction s with
  | nil => simp [narrowF_nil]
  | cons u rest ih =>
    by_cases hu : u < 0x80
    · rw [narrowF_ascii _ _ _ _ hu]
      simp only [List.takeWhile_cons]
      rw [ih hU.tail]
    · have hd : isDigit u = false := isDigit_false_of_ge (by omega)
      rcases narrowF_nonascii w hw u rest hu hU with h | ⟨b, tl, h, hb⟩
      · simp [h, hd]
      · simp [h, hd, isDigit_false_of_ge hb]

theorem narrowF_dropWhile (w : Nat) (hw : w = 16 ∨ w = 32) (s : List Nat) (hU : Units w s) :
    (narrowF w defaultMark8 s).dropWhile isDigit = narrowF w defaultMark8 (s.dropWhile isDigit) := by
  induction s with
  | nil => simp [narrowF_nil]
  | cons u rest ih =>
    by_cases hu : u < 0x80
    · rw [narrowF_ascii _ _ _ _ hu]
      simp only [List.dropWhile_cons]
      by_cases hd : isDigit u = true
      · simp only [hd, ↓reduceIte]; exact ih hU.tail
      · simp only [hd, Bool.false_eq_true, ↓reduceIte]; rw [narrowF_ascii _ _ _ _ hu]
    · have hd : isDigit u = false := isDigit_false_of_ge (by omega)
      rcases narrowF_nonascii w hw u rest hu hU with h | ⟨b, tl, h, hb⟩
      · simp [h, hd]
      · simp [h, hd, isDigit_false_of_ge hb]

theorem narrowF_head_minus (w : Nat) (hw : w = 16 ∨ w = 32) (s : List Nat) (hU : Units w s) :
    ((narrowF w defaultMark8 s).head? == some minusSign) = (s.head? == some minusSign) := by
  cases s with
  | nil => simp [narrowF_nil]
  | cons u rest =>
    by_cases hu : u < 0x80
    · rw [narrowF_ascii _ _ _ _ hu]; simp
    · have e2 : (u == minusSign) = false := beq_eq_false_iff_ne.2 (by simp only [minusSign]; omega)
      rcases narrowF_nonascii w hw u rest hu hU with h | ⟨b, tl, h, hb⟩
      · simp [h, e2]
      · have e1 : (b == minusSign) = false := beq_eq_false_iff_ne.2 (by simp only [minusSign]; omega)
        simp [h, e1, e2]

theorem narrowF_drop_minus (w : Nat) (s : List Nat) (h : (s.head? == some minusSign) = true) :
    narrowF w defaultMark8 (s.drop 1) = (narrowF w defaultMark8 s).drop 1 := by
  cases s with
  | nil => simp at h
  | cons u rest =>
    simp at h
    subst h
    rw [narrowF_ascii _ _ _ _ (by simp [minusSign])]; simp

theorem narrowF_fractionalTail (w : Nat) (hw : w = 16 ∨ w = 32) (r : List Nat) (hU : Units w r) :
    fractionalTail (narrowF w defaultMark8 r) = fractionalTail r := by
  cases r with
  | nil => simp [narrowF_nil]
  | cons c r1 =>
    by_cases hc : c < 0x80
    · rw [narrowF_ascii _ _ _ _ hc]
      cases r1 with
      | nil => simp [narrowF_nil, fractionalTail]
      | cons d r2 =>
        by_cases hd : d < 0x80
        · rw [narrowF_ascii _ _ _ _ hd]; simp [fractionalTail]
        · have hdd : isDigit d = false := isDigit_false_of_ge (by omega)
          rcases narrowF_nonascii w hw d r2 hd hU.tail with h | ⟨b, tl, h, hb⟩
          · simp [h, fractionalTail, hdd]
          · simp [h, fractionalTail, hdd, isDigit_false_of_ge hb]
    · have hcd : c ≠ dot := by simp only [dot]; omega
      have hR : fractionalTail (c :: r1) = false := by
        unfold fractionalTail; cases r1 <;> simp [hcd]
      rw [hR]
      rcases narrowF_nonascii w hw c r1 hc hU with h | ⟨b, tl, h, hb⟩
      · simp [h, fractionalTail]
      · have hbd : b ≠ dot := by simp only [dot]; omega
        rw [h]; unfold fractionalTail; cases tl <;> simp [hbd]

theorem leadingLiteral_narrowF (w : Nat) (hw : w = 16 ∨ w = 32) (signed : Bool) (s : List Nat) (hU : Units w s) :
    leadingLiteral signed (narrowF w defaultMark8 s) =
      (leadingLiteral signed s).map fun p => (p.1, p.2.1, narrowF w defaultMark8 p.2.2) := by
  unfold leadingLiteral
  dsimp only
  rw [narrowF_head_minus w hw s hU]
  by_cases hneg : (signed && s.head? == some minusSign) = true
  · have hm : (s.head? == some minusSign) = true := by
      cases signed <;> simp_all
    simp only [hneg, ↓reduceIte]
    rw [← narrowF_drop_minus w s hm, narrowF_takeWhile w hw _ (hU.drop 1), narrowF_dropWhile w hw _ (hU.drop 1)]
    split <;> simp
  · simp only [hneg, Bool.false_eq_true, ↓reduceIte]
    rw [narrowF_takeWhile w hw _ hU, narrowF_dropWhile w hw _ hU]
    split <;> simp

end BSVerif.Num
