/-
  C01 — Save then load reproduces the value, in every archive and output configuration.

  The property is a composition; this module states the composition at the level the model reaches
  and imports the layers it rests on. Audited under C01 by their own names (tools/props/C01.py):
    * scope layer:   C03 `history_correct`, `close_after_any_history` (named fields come back in any order; the
                     reader ends behind the object),
    * CSV:           C09 `archive_roundtrip`, `reader_reads_writer`,
    * text:          C11 `transcode_roundtrip`, C16 `int_roundtrip`, `bool_roundtrip`,
    * memory/stream: C10 `history_refines`,
    * JSON/XML:      C08 `load_build_roundtrip`, `save_then_load`, `dom_of_save`.
  Audited under their own properties only: the token codec (C06 `write_*`: what the writer emits decodes to the intended
  token; C07 `read_*_any_format`: the reader returns the value of every legal encoding), C05 and the C13 writer/reader.
  Stated and proved HERE: the token-level whole-document round trip of the MsgPack archive for arbitrary trees of
  objects, arrays and scalars (`saved_object_loads_back`).
-/
import BSVerif.Props.C03
import BSVerif.Props.C05
import BSVerif.Props.C06
import BSVerif.Props.C07
import BSVerif.Props.C09
import BSVerif.Props.C10
import BSVerif.Props.C11
import BSVerif.Props.C13
import BSVerif.Props.C16
import BSVerif.Props.C08

namespace BSVerif.Props.C01
open BSVerif.Scope

/-- dynamic trees (what a `SaveObject` of nested classes/containers produces) -/
inductive Tree where
  | int (v : Int) | bool (b : Bool) | str (s : List Nat) | flt (bits : Nat) | nil
  | arr (items : List Tree)
  | obj (fields : List (Key × Tree))

/-- the token stream the MsgPack write scopes produce for a tree (BeginArray/BeginMap with the exact
    element count, keys before values, depth first) -/
def Tree.toks : Tree → List Tok
  | .int v => [.int v]
  | .bool b => [.bool b]
  | .str s => [.str s]
  | .flt b => [.flt b]
  | .nil => [.nil]
  | .arr items => .arr items.length :: toksList items
  | .obj fields => .map fields.length :: toksFields fields
where
  toksList : List Tree → List Tok
    | [] => []
    | t :: ts => t.toks ++ toksList ts
  toksFields : List (Key × Tree) → List Tok
    | [] => []
    | (k, t) :: fs => keyTok k :: (t.toks ++ toksFields fs)

mutual
/-- every saved tree is ONE complete value of the token stream (C06 "exactly one well-formed object", at
    token level): skipping it consumes exactly its tokens, whatever follows and whatever else is pending -/
theorem skip_tree : ∀ (t : Tree) (rest : List Tok) (n : Nat), skipN (t.toks ++ rest) (n + 1) = skipN rest n
  | .int _, rest, n | .bool _, rest, n | .str _, rest, n | .flt _, rest, n | .nil, rest, n => by
    simp [Tree.toks, skipN, Tok.children]
  | .arr items, rest, n => by
    simp only [Tree.toks, List.cons_append, skipN, Tok.children]
    exact skip_list items rest n
  | .obj fields, rest, n => by
    simp only [Tree.toks, List.cons_append, skipN, Tok.children]
    exact skip_fields fields rest n

theorem skip_list : ∀ (items : List Tree) (rest : List Tok) (n : Nat),
    skipN (Tree.toks.toksList items ++ rest) (n + items.length) = skipN rest n
  | [], rest, n => by simp [Tree.toks.toksList]
  | t :: ts, rest, n => by
    simp only [Tree.toks.toksList, List.length_cons, List.append_assoc]
    rw [show n + (ts.length + 1) = (n + ts.length) + 1 by omega, skip_tree t]
    exact skip_list ts rest n

theorem skip_fields : ∀ (fields : List (Key × Tree)) (rest : List Tok) (n : Nat),
    skipN (Tree.toks.toksFields fields ++ rest) (n + 2 * fields.length) = skipN rest n
  | [], rest, n => by simp [Tree.toks.toksFields]
  | (k, t) :: fs, rest, n => by
    simp only [Tree.toks.toksFields, List.length_cons, List.cons_append, List.append_assoc]
    rw [show n + 2 * (fs.length + 1) = (n + 2 * fs.length + 1) + 1 by omega]
    simp only [skipN, keyTok_children, Nat.add_zero]
    rw [skip_tree t]
    exact skip_fields fs rest n
end

/-- **Every saved tree is one complete value** -/
theorem saved_tree_is_one_value (t : Tree) : WFv t.toks := ⟨by cases t <;> simp [Tree.toks], skip_tree t⟩

/-- the layout of a saved object: its fields are complete values, so all of C03 applies to what `SaveObject` wrote -/
def layoutOf (pre : List Tok) (fields : List (Key × Tree)) (post : List Tok) : Layout :=
  ⟨pre ++ [.map fields.length], fields.map fun f => (f.1, f.2.toks), post⟩

theorem layoutOf_wf (pre : List Tok) (fields : List (Key × Tree)) (post : List Tok) : (layoutOf pre fields post).WF := by
  intro e he
  simp only [layoutOf, List.mem_map] at he
  obtain ⟨f, _, rfl⟩ := he
  exact saved_tree_is_one_value f.2

/-- the document the two theorems below read is the saved object `(Tree.obj fields).toks` between `pre` and `post`: their
    statements name it only through `layoutOf` -/
theorem layoutOf_doc (pre : List Tok) (fields : List (Key × Tree)) (post : List Tok) :
    (layoutOf pre fields post).doc = pre ++ (Tree.obj fields).toks ++ post := by
  have e : ∀ fs : List (Key × Tree), (fs.map fun f => (f.1, f.2.toks)).flatMap Layout.enc = Tree.toks.toksFields fs := by
    intro fs
    induction fs with
    | nil => rfl
    | cons f fs ih => obtain ⟨k, t⟩ := f; simp [Layout.enc, Tree.toks.toksFields, List.flatMap_cons, ih]
  simp [layoutOf, Layout.doc, Layout.body, e, Tree.toks]

/-- **C01 (MsgPack, token level): what was saved under a key is what a load of that key returns**, for an object
    with arbitrary (nested) field values, requested in ANY order, with absent keys and repeats — and closing the
    scope leaves the reader exactly behind the saved object. Composition of C03 with `saved_tree_is_one_value`. -/
theorem saved_object_loads_back (pre post : List Tok) (fields : List (Key × Tree)) (mis : Mis) (qs : List (Key × Ty)) :
    let L := layoutOf pre fields post
    let r : Rd := ⟨L.doc, L.posOf 0, mis⟩
    match C03.runGets qs ⟨r.pos, L.size, 0, none⟩ r with
    | .ok (as, o', r') => C03.Forall2 (C03.AnswerOK L mis) qs as ∧
        (∃ o'' r'', objClose o' r' = .ok (o'', r'') ∧ r''.rest = post)
    | .error err => ∃ q ∈ qs, C03.ErrorOK L mis q err := by
  intro L r
  have hwf := layoutOf_wf pre fields post
  have hinv := C03.fresh_scope_inv L r rfl rfl
  have h := C03.history_correct L hwf qs _ r hinv
  cases hr : C03.runGets qs ⟨r.pos, L.size, 0, none⟩ r with
  | error e => rw [hr] at h; exact h
  | ok res =>
    obtain ⟨as, o', r'⟩ := res
    rw [hr] at h
    obtain ⟨o'', r'', c1, _, c3⟩ := C03.close_after_any_history L hwf qs _ r hinv as o' r' hr
    exact ⟨h.1, o'', r'', c1, c3⟩

theorem toksList_eq_flatten (items : List Tree) : Tree.toks.toksList items = (items.map Tree.toks).flatten := by
  induction items with
  | nil => rfl
  | cons t ts ih => simp [Tree.toks.toksList, ih]

/-- every array field of a saved object is an array of complete values -/
theorem layoutOf_arrwf (pre : List Tok) (fields : List (Key × Tree)) (post : List Tok) : (layoutOf pre fields post).ArrWF := by
  intro e he n ts h
  simp only [layoutOf, List.mem_map] at he
  obtain ⟨f, _, rfl⟩ := he
  obtain ⟨k, t⟩ := f
  cases t with
  | arr items =>
    refine ⟨items.map Tree.toks, ?_, ?_⟩
    · simp [Tree.toks, toksList_eq_flatten]
    · intro w hw
      simp only [List.mem_map] at hw
      obtain ⟨t', _, rfl⟩ := hw
      exact saved_tree_is_one_value t'
  | _ => simp [Tree.toks] at h

/-- **C01 (MsgPack, token level) with containers read in part**: a saved object loads back field by field in ANY order
    when array fields are read only as far as the target likes (a `std::tuple` shorter than the saved array under the
    Skip policy, a prefix, nothing at all) — every answer is the abstract one, and closing the scope lands exactly behind
    the saved object. Composition of `C03.history_with_arrays_correct` with `saved_tree_is_one_value`. -/
theorem saved_object_loads_back_with_arrays (pre post : List Tok) (fields : List (Key × Tree)) (mis : Mis) (qs : List C03.OReq) :
    let L := layoutOf pre fields post
    let r : Rd := ⟨L.doc, L.posOf 0, mis⟩
    match C03.runReqs qs ⟨r.pos, L.size, 0, none⟩ r with
    | .ok (as, o', r') => C03.Forall2 (C03.ReqAnswerOK L mis) qs as ∧
        (∃ o'' r'', objClose o' r' = .ok (o'', r'') ∧ r''.rest = post)
    | .error err => ∃ q ∈ qs, C03.ReqErrorOK L mis q err := by
  intro L r
  have hwf := layoutOf_wf pre fields post
  have harr := layoutOf_arrwf pre fields post
  have hinv := C03.fresh_scope_inv L r rfl rfl
  have h := C03.history_with_arrays_correct L hwf harr qs _ r hinv
  cases hr : C03.runReqs qs ⟨r.pos, L.size, 0, none⟩ r with
  | error e => rw [hr] at h; exact h
  | ok res =>
    obtain ⟨as, o', r'⟩ := res
    rw [hr] at h
    obtain ⟨o'', r'', c1, _, c3⟩ := C03.close_after_any_history_with_arrays L hwf harr qs _ r hinv as o' r' hr
    exact ⟨h.1, o'', r'', c1, c3⟩

end BSVerif.Props.C01
