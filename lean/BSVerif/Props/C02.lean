/-
  C02 — No input can crash, hang, or exhaust the loader or the string converters.

  In this technique the property decomposes into
    (1) TOTALITY: every loader/converter of the model is a total Lean function (Lean's termination checker is the
        no-hang proof); where the real loop has no syntactically decreasing quantity the progress lemma is stated
        and proved separately (`C13.readChunk_progress`, `C13.readAll_terminates`);
    (2) IN-BOUNDS: positions/iterators never leave the input (`C12.transcode_in_bounds`, which collects the per-loop
        `C12.*_bounds`; `C10.readSolidBlock_refines`, `C10.history_refines`: the sliding cache never serves a byte
        outside the byte string; `C05.reader_skip_total`);
    (3) every failure is a value of the error type (an std::exception in the code): `C16.parse_total`,
        `C16.bool_parse_total`, `C05.reader_skip_rejects`, `C07.truncation_rejected`, `C09.reader_conforms`;
    (4) the destructor obligation of C20 (`dtors_cannot_let_exceptions_escape`, `no_terminate`).
  This module re-exports nothing: the theorems named above (the per-loop `*_bounds` excepted) are listed by their own
  names in tools/props/C02.py and audited through this module's import closure. What is specific to C02 — the two
  recorded resource findings — is stated here on the token-level model.
-/
import BSVerif.Props.C05
import BSVerif.Props.C07
import BSVerif.Props.C09
import BSVerif.Props.C10
import BSVerif.Props.C12
import BSVerif.Props.C13
import BSVerif.Props.C16
import BSVerif.Props.C20

namespace BSVerif.Props.C02
open BSVerif.Scope

/-- the number of non-empty container headers in a token stream (`cur` is never decreased): the nesting depth `SkipValue`
    reaches when every container is the last element of the one before, as in the witness below — the real
    `SkipValueImpl` recurses once per level —, and only an upper bound on it otherwise -/
def nestDepth : List Tok → Nat → Nat → Nat
  | [], _, best => best
  | t :: ts, cur, best =>
    match t with
    | .arr (_ + 1) => nestDepth ts (cur + 1) (max best (cur + 1))
    | .map (_ + 1) => nestDepth ts (cur + 1) (max best (cur + 1))
    | _ => nestDepth ts cur best

/-- **Recorded finding (recursion).** The statement "recursion depth is bounded independently of the input"
    is false: `n` nested one-element arrays (n+1 tokens, n+1 bytes) need depth `n`. -/
theorem depth_unbounded_refuted : ∀ D : Nat, ∃ doc : List Tok, doc.length = D + 2 ∧ nestDepth doc 0 0 > D := by
  intro D
  refine ⟨List.replicate (D + 1) (.arr 1) ++ [.int 0], by simp, ?_⟩
  have key : ∀ n cur best, nestDepth (List.replicate n (.arr 1) ++ [.int 0]) cur best = max best (if n = 0 then best else cur + n) := by
    intro n
    induction n with
    | zero => intro cur best; simp [nestDepth]
    | succ n ih =>
      intro cur best
      simp only [List.replicate_succ, List.cons_append, nestDepth]
      rw [ih]
      by_cases hn : n = 0
      · subst hn; simp
      · simp [hn]; omega
  rw [key]; simp

/-- **Recorded finding (pre-allocation).** The element count a container pre-sizes to is the header's declared
    count, whatever the length of the input: a 1-token document can declare any count. -/
theorem prealloc_unbounded_refuted : ∀ n : Nat, ∃ doc : List Tok, doc.length = 1 ∧
    (match (Rd.readArraySize ⟨doc, 0, .skip⟩) with | .ok (some k, _) => k = n | _ => False) := by
  intro n
  exact ⟨[.arr n], rfl, by simp [Rd.readArraySize, Rd.rest]⟩

end BSVerif.Props.C02
