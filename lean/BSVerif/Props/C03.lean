/-
  C03 — Named fields load correctly in any request order, with absent and unread fields.

  Setting: an object of ANY size whose entries are ANY complete values (scalars, nested arrays,
  nested objects — `Layout.WF`), embedded anywhere in a document (`pre`, `post` arbitrary), read
  through the model of CMsgPackReadObjectScope over the token-level reader. Quantifiers: all
  layouts, all cursor states satisfying the invariant, all keys (present, absent, repeated), all
  target kinds, both mismatched-types policies, all request histories (unbounded length).
-/
import BSVerif.Scope.Cursor
import BSVerif.Scope.Machine
import BSVerif.Scope.VarKey

namespace BSVerif.Props.C03
open BSVerif.Scope

/-- the abstract answer to `SerializeValue(key, value of kind ty)` on the object `L`. "Some entry with that key": for a key
    stored twice the cyclic scan meets whichever comes next from where the cursor stands, while `Spec.lookup` of
    Scope/Spec.lean takes the first; the two agree on objects with distinct keys -/
def AnswerOK (L : Layout) (mis : Mis) (q : Key × Ty) (a : Option Sc) : Prop :=
  (∃ (m : Nat) (e : Key × List Tok), L.entries[m]? = some e ∧ e.1 = q.1 ∧ valueAnswer mis q.2 e.2 = .ok a) ∨
  ((∀ m, keyAt L m ≠ some q.1) ∧ a = none)

/-- the exception a request may raise: exactly the policy's exception for the value stored under that key -/
def ErrorOK (L : Layout) (mis : Mis) (q : Key × Ty) (err : Err) : Prop :=
  ∃ (m : Nat) (e : Key × List Tok), L.entries[m]? = some e ∧ e.1 = q.1 ∧ valueAnswer mis q.2 e.2 = .error err

/-- **C03, one request.** From any cursor state satisfying the invariant, a request for any key and
    kind returns exactly the value stored under that key (or "not loaded" for an absent key, a nil,
    or a value skipped by policy; or the policy's exception), and re-establishes the invariant. -/
theorem get_correct (L : Layout) (hwf : L.WF) (q : Key × Ty) (o : Obj) (r : Rd) (hinv : Inv L o r) :
    match objGet q.1 q.2 o r with
    | .ok (a, o', r') => AnswerOK L r.mis q a ∧ Inv L o' r' ∧ r'.mis = r.mis
    | .error err => ErrorOK L r.mis q err := by
  rcases objGet_spec L hwf q.1 q.2 o r hinv with ⟨m, e, he, hk, h⟩ | ⟨hno, o', r', h, hi⟩
  · cases hva : valueAnswer r.mis q.2 e.2 <;> rw [hva] at h
    · rw [h]; exact ⟨m, e, he, hk, hva⟩
    · obtain ⟨o', r', h1, hi⟩ := h; rw [h1]; exact ⟨.inl ⟨m, e, he, hk, hva⟩, hi⟩
  · rw [h]; exact ⟨.inr ⟨hno, rfl⟩, hi⟩

/-- pointwise relation between the requests and the answers of a history -/
inductive Forall2 {α β : Type} (R : α → β → Prop) : List α → List β → Prop where
  | nil : Forall2 R [] []
  | cons {a b as bs} : R a b → Forall2 R as bs → Forall2 R (a :: as) (b :: bs)

/-- a history of requests on one object scope -/
def runGets : List (Key × Ty) → Obj → Rd → Except Err (List (Option Sc) × Obj × Rd)
  | [], o, r => .ok ([], o, r)
  | q :: qs, o, r =>
    match objGet q.1 q.2 o r with
    | .error e => .error e
    | .ok (a, o', r') =>
      match runGets qs o' r' with
      | .error e => .error e
      | .ok (as, o'', r'') => .ok (a :: as, o'', r'')

/-- **C03, every history.** Any sequence of requests — any order, repeated keys, absent keys — gets,
    request by request, exactly the abstract answers; if an exception is raised it is the policy's
    exception for one of the requested fields. -/
theorem history_correct (L : Layout) (hwf : L.WF) (qs : List (Key × Ty)) :
    ∀ (o : Obj) (r : Rd), Inv L o r →
    match runGets qs o r with
    | .ok (as, o', r') => Forall2 (AnswerOK L r.mis) qs as ∧ Inv L o' r' ∧ r'.mis = r.mis
    | .error err => ∃ q ∈ qs, ErrorOK L r.mis q err := by
  induction qs with
  | nil => intro o r h; exact ⟨.nil, h, rfl⟩
  | cons q qs ih =>
    intro o r hinv
    have hg := get_correct L hwf q o r hinv
    unfold runGets
    split at hg
    next a o' r' he =>
      have := ih o' r' hg.2.1
      rw [hg.2.2] at this
      split at this
      next as o'' r'' hr => simp only [he, hr]; exact ⟨.cons hg.1 this.1, this.2⟩
      next e hr => simp only [he, hr]; exact this.imp fun _ h => ⟨by simp [h.1], h.2⟩
    next e he => simp only [he]; exact ⟨q, by simp, hg⟩

/-- **C03, unread fields are skipped.** After ANY history, destroying the scope leaves the reader
    exactly behind the object, so the data that follows it is read correctly. -/
theorem close_after_any_history (L : Layout) (hwf : L.WF) (qs : List (Key × Ty)) (o : Obj) (r : Rd) (hinv : Inv L o r)
    (as : List (Option Sc)) (o' : Obj) (r' : Rd) (hrun : runGets qs o r = .ok (as, o', r')) :
    ∃ o'' r'', objClose o' r' = .ok (o'', r'') ∧ r''.pos = L.posOf L.size ∧ r''.rest = L.post := by
  have h := history_correct L hwf qs o r hinv
  rw [hrun] at h
  obtain ⟨o'', r'', h1, h2, _, _, h3⟩ := objClose_spec L hwf o' r' h.2.1
  exact ⟨o'', r'', h1, h2, h3⟩

/-- a freshly opened scope (`OpenObjectScope` right after the map header) satisfies the invariant -/
theorem fresh_scope_inv (L : Layout) (r : Rd) (hdoc : r.doc = L.doc) (hpos : r.pos = L.posOf 0) :
    Inv L ⟨r.pos, L.size, 0, none⟩ r :=
  ⟨0, none, ⟨hdoc, hpos, rfl, rfl, rfl, by simpa using hpos⟩, Nat.zero_le _, nofun⟩

/-! `~CMsgPackReadArrayScope` skips the elements that were not read (fix 0b9e4f2; errors of the skip are deferred to
`Finalize()`), so an array scope opened under a key may be left wherever the caller likes — a `std::tuple` shorter
than the array under the Skip policy, a partly read nested array — without disturbing what is requested
afterwards. -/

/-- a request on an object scope: a scalar by key, the array under a key read with the target kinds `tys`
    (as many or as few elements as the caller likes) and closed, or the `bin` value under a key opened as a binary
    scope of which `n` bytes (all, some, none) are read before it is closed -/
inductive OReq where
  | get (k : Key) (ty : Ty)
  | arr (k : Key) (tys : List Ty)
  | bin (k : Key) (n : Nat)

inductive OAns where
  | val (a : Option Sc)
  | arr (a : Option (List (Option Sc)))
  | bin (a : Option (List Nat))

def runReq : OReq → Obj → Rd → Except Err (OAns × Obj × Rd)
  | .get k ty, o, r =>
    match objGet k ty o r with
    | .ok (a, o', r') => .ok (.val a, o', r')
    | .error e => .error e
  | .arr k tys, o, r =>
    match objReadArr k tys o r with
    | .ok (a, o', r') => .ok (.arr a, o', r')
    | .error e => .error e
  | .bin k n, o, r =>
    match objReadBin k n o r with
    | .ok (a, o', r') => .ok (.bin a, o', r')
    | .error e => .error e

def runReqs : List OReq → Obj → Rd → Except Err (List OAns × Obj × Rd)
  | [], o, r => .ok ([], o, r)
  | q :: qs, o, r =>
    match runReq q o r with
    | .error e => .error e
    | .ok (a, o', r') =>
      match runReqs qs o' r' with
      | .error e => .error e
      | .ok (as, o'', r'') => .ok (a :: as, o'', r'')

/-- the abstract answer to a request: for an array request, the answers for the FIRST `tys.length` elements of the
    array stored under the key (`none`: absent key, nil, or a value of another kind under Skip) -/
def ReqAnswerOK (L : Layout) (mis : Mis) : OReq → OAns → Prop
  | .get k ty, .val a => AnswerOK L mis (k, ty) a
  | .arr k tys, .arr a =>
    (∃ (m : Nat) (e : Key × List Tok), L.entries[m]? = some e ∧ e.1 = k ∧ ArrOutcome mis tys e.2 (.ok a)) ∨
    ((∀ m, keyAt L m ≠ some k) ∧ a = none)
  -- a binary-scope request: the FIRST `n` bytes of the `bin` value stored under the key (`none`: absent key or a value
  -- that is not a `bin`, which is left in place)
  | .bin k n, .bin a =>
    (∃ (m : Nat) (e : Key × List Tok), L.entries[m]? = some e ∧ e.1 = k ∧ BinOutcome n e.2 (.ok a)) ∨
    ((∀ m, keyAt L m ≠ some k) ∧ a = none)
  | _, _ => False

/-- the exception a request may raise: the policy's exception for the requested field / for one of the requested
    elements, or OutOfRange for an element beyond the end of the array -/
def ReqErrorOK (L : Layout) (mis : Mis) : OReq → Err → Prop
  | .get k ty, err => ErrorOK L mis (k, ty) err
  | .arr k tys, err => ∃ (m : Nat) (e : Key × List Tok), L.entries[m]? = some e ∧ e.1 = k ∧ ArrOutcome mis tys e.2 (.error err)
  -- more bytes requested than the value has: OutOfRange
  | .bin k n, err => ∃ (m : Nat) (e : Key × List Tok), L.entries[m]? = some e ∧ e.1 = k ∧ BinOutcome n e.2 (.error err)

/-- **one request of the extended language** re-establishes the cursor invariant, whatever part of an array or of a
    `bin` value it left unread (the values of the object may be ext values / timestamps: `Layout.WF` admits every
    complete value) -/
theorem req_correct (L : Layout) (hwf : L.WF) (harr : L.ArrWF) (q : OReq) (o : Obj) (r : Rd) (hinv : Inv L o r) :
    match runReq q o r with
    | .ok (a, o', r') => ReqAnswerOK L r.mis q a ∧ Inv L o' r' ∧ r'.mis = r.mis
    | .error err => ReqErrorOK L r.mis q err := by
  cases q with
  | get k ty =>
    have hg := get_correct L hwf (k, ty) o r hinv
    simp only [runReq]
    cases hobj : objGet k ty o r <;> rw [hobj] at hg <;> exact hg
  | arr k tys =>
    simp only [runReq]
    rcases objReadArr_spec L hwf harr k tys o r hinv with ⟨m, e, out, he, hk, hout, h⟩ | ⟨hno, o', r', h, hi⟩
    · cases out with
      | ok a => obtain ⟨o', r', h1, hi⟩ := h; rw [h1]; exact ⟨.inl ⟨m, e, he, hk, hout⟩, hi⟩
      | error err => rw [show objReadArr k tys o r = .error err from h]; exact ⟨m, e, he, hk, hout⟩
    · rw [h]; exact ⟨.inr ⟨hno, rfl⟩, hi⟩
  | bin k n =>
    simp only [runReq]
    rcases objReadBin_spec L hwf k n o r hinv with ⟨m, e, out, he, hk, hout, h⟩ | ⟨hno, o', r', h, hi⟩
    · cases out with
      | ok a => obtain ⟨o', r', h1, hi⟩ := h; rw [h1]; exact ⟨.inl ⟨m, e, he, hk, hout⟩, hi⟩
      | error err => rw [show objReadBin k n o r = .error err from h]; exact ⟨m, e, he, hk, hout⟩
    · rw [h]; exact ⟨.inr ⟨hno, rfl⟩, hi⟩

/-- **C03, every history, with arrays left partly read.** Any sequence of requests — scalars by key in any order,
    repeated and absent keys, arrays by key of which only the first few elements (or none) are read before the
    array scope is destroyed, and `bin` values by key opened as binary scopes of which all, some or none of the bytes
    are read (also `OpenBinaryScope` on values that are not `bin`) — gets, request by request, exactly the abstract
    answers: an array or a `bin` value left partly read disturbs nothing that follows. If an exception is raised it is the policy's exception for one of the requests. -/
theorem history_with_arrays_correct (L : Layout) (hwf : L.WF) (harr : L.ArrWF) (qs : List OReq) :
    ∀ (o : Obj) (r : Rd), Inv L o r →
    match runReqs qs o r with
    | .ok (as, o', r') => Forall2 (ReqAnswerOK L r.mis) qs as ∧ Inv L o' r' ∧ r'.mis = r.mis
    | .error err => ∃ q ∈ qs, ReqErrorOK L r.mis q err := by
  induction qs with
  | nil => intro o r h; exact ⟨.nil, h, rfl⟩
  | cons q qs ih =>
    intro o r hinv
    have hg := req_correct L hwf harr q o r hinv
    unfold runReqs
    split at hg
    next a o' r' he =>
      have := ih o' r' hg.2.1
      rw [hg.2.2] at this
      split at this
      next as o'' r'' hr => simp only [he, hr]; exact ⟨.cons hg.1 this.1, this.2⟩
      next e hr => simp only [he, hr]; exact this.imp fun _ h => ⟨by simp [h.1], h.2⟩
    next e he => simp only [he]; exact ⟨q, by simp, hg⟩

/-- **C03, unread fields, unread elements and unread bytes are skipped.** After ANY history of the extended language,
    destroying the object scope leaves the reader exactly behind the object. -/
theorem close_after_any_history_with_arrays (L : Layout) (hwf : L.WF) (harr : L.ArrWF) (qs : List OReq) (o : Obj) (r : Rd)
    (hinv : Inv L o r) (as : List OAns) (o' : Obj) (r' : Rd) (hrun : runReqs qs o r = .ok (as, o', r')) :
    ∃ o'' r'', objClose o' r' = .ok (o'', r'') ∧ r''.pos = L.posOf L.size ∧ r''.rest = L.post := by
  have h := history_with_arrays_correct L hwf harr qs o r hinv
  rw [hrun] at h
  obtain ⟨o'', r'', h1, h2, _, _, h3⟩ := objClose_spec L hwf o' r' h.2.1
  exact ⟨o'', r'', h1, h2, h3⟩

/-! The history theorems above speak of `runGets`/`runReqs`, not of the scope machine `run`/`step` — the model that is run
against the real scopes. The tie is per request: `step` answers `.get` by `objGet` itself, and `objReadArr`, `objReadBin`
are the machine's open / element requests / close (below) — when they succeed: `| .error _ => True` claims nothing, and
that the machine raises the composite's exception at the same request is not proved. -/

def toAns : Option Sc → Ans
  | some v => .val v
  | none => .no

/-- `arrReads` = the machine's `SerializeValue` steps on an array scope -/
theorem arrReads_is_machine (tys : List Ty) : ∀ (size index : Nat) (r : Rd) (tl : List Scope) (d : Option Err)
    (as : List (Option Sc)) (idx : Nat) (r' : Rd), arrReads tys size index r = .ok (as, idx, r') →
    ∀ qs, run ⟨r, .arr size index :: tl, d⟩ (tys.map .next ++ qs) = as.map toAns ++ run ⟨r', .arr size idx :: tl, d⟩ qs := by
  induction tys with
  | nil =>
    intro size index r tl d as idx r' h qs
    simp only [arrReads, Except.ok.injEq, Prod.mk.injEq] at h
    obtain ⟨rfl, rfl, rfl⟩ := h
    rfl
  | cons ty tys ih =>
    intro size index r tl d as idx r' h qs
    simp only [arrReads] at h
    rcases hc : checkEnd size index with e | u
    · simp [hc] at h
    rcases hr : r.readValue ty with e | ⟨a, r1⟩
    · simp [hc, hr] at h
    rcases hrest : arrReads tys size (index + 1) r1 with e | ⟨as', idx', r2⟩
    · simp [hc, hr, hrest] at h
    simp only [hc, hr, hrest, Except.ok.injEq, Prod.mk.injEq] at h
    obtain ⟨rfl, rfl, rfl⟩ := h
    have := ih size (index + 1) r1 tl d as' idx' r2 hrest qs
    cases a with
    | some v => simp only [List.map_cons, List.cons_append, run_cons_of_step (step_arr_next_val hc hr), toAns, this]
    | none => simp only [List.map_cons, List.cons_append, run_cons_of_step (step_arr_next_no hc hr), toAns, this]

/-- **`objReadArr` = the machine's `OpenArrayScope(key)`, element requests, destruction of the array scope**, from any
    state of the enclosing object scope and whatever is requested afterwards (`qs`) -/
theorem objReadArr_is_machine (key : Key) (tys : List Ty) (o : Obj) (r : Rd) (tl : List Scope) (d : Option Err) :
    match objReadArr key tys o r with
    | .ok (some as, o', r') => ∃ n, ∀ qs,
        run ⟨r, .obj o :: tl, d⟩ (.openArrK key :: (tys.map .next ++ .close :: qs))
          = .opened n :: (as.map toAns ++ .closed :: run ⟨r', .obj o' :: tl, d⟩ qs)
    | .ok (none, o', r') => ∀ qs,
        run ⟨r, .obj o :: tl, d⟩ (.openArrK key :: qs) = .no :: run ⟨r', .obj o' :: tl, d⟩ qs
    | .error _ => True := by
  unfold objReadArr
  rcases hf : findValueByKey key o r with e | ⟨_ | _, o1, r1⟩
  · trivial
  · exact fun qs => run_cons_of_step (step_obj_openArrK_absent hf)
  dsimp only
  rcases hs : r1.readArraySize with e | ⟨_ | n, r2⟩
  · trivial
  · exact fun qs => run_cons_of_step (step_obj_openArrK_other hf hs)
  dsimp only
  rcases hrd : arrReads tys n 0 r2 with e | ⟨as, idx, r3⟩
  · trivial
  dsimp only
  rcases hcl : arrClose n idx r3 with e | r4
  · trivial
  refine ⟨n, fun qs => ?_⟩
  rw [run_cons_of_step (step_obj_openArrK_arr hf hs), arrReads_is_machine tys n 0 r2 _ d as idx r3 hrd,
    run_cons_of_step (step_arr_close hcl)]
  rfl

def byteAns (b : Nat) : Ans := .val (.byte b)

/-- `binReads` = the machine's `SerializeValue(byte)` steps on a binary scope -/
theorem binReads_is_machine (k : Nat) : ∀ (size index : Nat) (r : Rd) (tl : List Scope) (d : Option Err)
    (bs : List Nat) (idx : Nat), binReads k size index r = .ok (bs, idx) →
    ∀ qs, run ⟨r, .bin size index :: tl, d⟩ (List.replicate k .readByte ++ qs) = bs.map byteAns ++ run ⟨r, .bin size idx :: tl, d⟩ qs := by
  induction k with
  | zero =>
    intro size index r tl d bs idx h qs
    simp only [binReads, Except.ok.injEq, Prod.mk.injEq] at h
    obtain ⟨rfl, rfl⟩ := h
    rfl
  | succ k ih =>
    intro size index r tl d bs idx h qs
    simp only [binReads] at h
    rcases hc : checkEnd size index with e | u
    · simp [hc] at h
    rcases hr : r.readBinary index with e | b
    · simp [hc, hr] at h
    rcases hrest : binReads k size (index + 1) r with e | ⟨bs', idx'⟩
    · simp [hc, hr, hrest] at h
    simp only [hc, hr, hrest, Except.ok.injEq, Prod.mk.injEq] at h
    obtain ⟨rfl, rfl⟩ := h
    have := ih size (index + 1) r tl d bs' idx' hrest qs
    simp only [List.replicate_succ, List.map_cons, List.cons_append, run_cons_of_step (step_bin_readByte hc hr), byteAns, this]

/-- **`objReadBin` = the machine's `OpenBinaryScope(key)`, byte requests, destruction of the binary scope**, from any
    state of the enclosing object scope and whatever is requested afterwards (`qs`) -/
theorem objReadBin_is_machine (key : Key) (k : Nat) (o : Obj) (r : Rd) (tl : List Scope) (d : Option Err) :
    match objReadBin key k o r with
    | .ok (some bs, o', r') => ∃ n, ∀ qs,
        run ⟨r, .obj o :: tl, d⟩ (.openBinK key :: (List.replicate k .readByte ++ .close :: qs))
          = .opened n :: (bs.map byteAns ++ .closed :: run ⟨r', .obj o' :: tl, d⟩ qs)
    | .ok (none, o', r') => ∀ qs,
        run ⟨r, .obj o :: tl, d⟩ (.openBinK key :: qs) = .no :: run ⟨r', .obj o' :: tl, d⟩ qs
    | .error _ => True := by
  unfold objReadBin
  rcases hf : findValueByKey key o r with e | ⟨_ | _, o1, r1⟩
  · trivial
  · exact fun qs => run_cons_of_step (step_obj_openBinK_absent hf)
  dsimp only
  rcases hb : r1.isBinary with e | _ | _
  · trivial
  · exact fun qs => run_cons_of_step (step_obj_openBinK_other hf hb)
  dsimp only
  rcases hs : r1.readBinarySize with e | ⟨_ | n, r2⟩
  · trivial
  · exact fun qs => run_cons_of_step (step_obj_openBinK_none hf hb hs)
  dsimp only
  rcases hrd : binReads k n 0 r2 with e | ⟨bs, idx⟩
  · trivial
  dsimp only
  rcases hcl : binClose n idx r2 with e | r3
  · trivial
  refine ⟨n, fun qs => ?_⟩
  rw [run_cons_of_step (step_obj_openBinK_bin hf hb hs), binReads_is_machine k n 0 r2 _ d bs idx hrd,
    run_cons_of_step (step_bin_close hcl)]
  rfl

/-- the composite `objReadArr` is what the scope machine (the model run against the real scopes) does for the requests
    `OpenArrayScope(key)`, one `SerializeValue` per kind, destroy — on `{"a":[1,"x",3],"b":5} 7`, the witness below with a
    string as second element (skipped by policy), the array left after two of its three elements -/
example :
    let doc : List Tok := [.map 2, .str [97], .arr 3, .int 1, .str [120], .int 3, .str [98], .int 5, .int 7]
    (objReadArr (.str [97]) [.int, .int] ⟨1, 2, 0, none⟩ ⟨doc, 1, .skip⟩).toOption.map (fun x => (x.1, x.2.2.pos))
      = some (some [some (.int 1), none], 6) ∧
    run (initSt doc .skip) [.openObj, .openArrK (.str [97]), .next .int, .next .int, .close, .get (.str [98]) .int, .close, .next .int]
      = [.opened 2, .opened 3, .val (.int 1), .no, .closed, .val (.int 5), .closed, .val (.int 7)] := by
  decide

/-- the witness of the defect class `msgpack-array-left-partly-read` (repaired by 0b9e4f2): `{"a":[1,2,3],"b":5} 7`,
    open "a", read one element, close, request "b", close, read the sentinel — every answer is the data-model answer -/
theorem array_left_partly_read_harmless :
    run (initSt [.map 2, .str [97], .arr 3, .int 1, .int 2, .int 3, .str [98], .int 5, .int 7] .skip)
        [.openObj, .openArrK (.str [97]), .next .int, .close, .get (.str [98]) .int, .close, .next .int]
      = [.opened 2, .opened 3, .val (.int 1), .closed, .val (.int 5), .closed, .val (.int 7)] := by
  decide

/-- the scope machine WITHOUT the skip loop in `~CMsgPackReadArrayScope` (the code before fix 0b9e4f2) -/
def stepBeforeFix (st : St) (req : Req) : Ans × St :=
  match st.stack, req with
  | .arr _ _ :: tl, .close => (.closed, { st with stack := notifyParent tl })
  | _, _ => step st req

def runBeforeFix : St → List Req → List Ans
  | _, [] => []
  | st, q :: qs =>
    match stepBeforeFix st q with
    | (.err e, _) => [.err e]
    | (.terminate, _) => [.terminate]
    | (.badReq, _) => [.badReq]
    | (a, st') => a :: runBeforeFix st' qs

/-- why the loop is needed (documented refutation of the unrepaired code): without it the same history reads "b" from
    inside the array -/
theorem array_left_partly_read_refuted_before_fix :
    runBeforeFix (initSt [.map 2, .str [97], .arr 3, .int 1, .int 2, .int 3, .str [98], .int 5, .int 7] .skip)
        [.openObj, .openArrK (.str [97]), .next .int, .close, .get (.str [98]) .int, .close, .next .int]
      ≠ [.opened 2, .opened 3, .val (.int 1), .closed, .val (.int 5), .closed, .val (.int 7)] := by
  decide

/-- a truncated document: the skip loop of a destructor fails, the scope is closed all the same (`C`), and the error
    surfaces from `Finalize()` after the last request — never `terminate` (C20) -/
example :
    run (initSt [.map 2, .str [97], .arr 3, .int 1] .skip) [.openObj, .openArrK (.str [97]), .next .int, .close, .close]
      = [.opened 2, .opened 3, .val (.int 1), .closed, .closed, .err .parsing] := by
  decide

/-! `~CMsgPackReadBinaryScope` skips the bytes that were not read (errors deferred to `Finalize()`); before that repair a
binary scope closed early left the reader inside the payload. -/

/-- the witness: `{"a": bin(1,2,3,4,5), "b": 5} 7`, open "a" as a binary scope, read two bytes, close, request "b",
    close, read the sentinel — every answer is the data-model answer -/
theorem binary_left_partly_read_harmless :
    run (initSt [.map 2, .str [97], .bin [1, 2, 3, 4, 5], .str [98], .int 5, .int 7] .skip)
        [.openObj, .openBinK (.str [97]), .readByte, .readByte, .close, .get (.str [98]) .int, .close, .next .int]
      = [.opened 2, .opened 5, .val (.byte 1), .val (.byte 2), .closed, .val (.int 5), .closed, .val (.int 7)] := by
  decide

/-- the same inside an array and at the root, read partly and not at all; `OpenBinaryScope` on the value that is not a
    `bin` leaves it in place and does not count it -/
theorem binary_left_partly_read_harmless_in_array :
    run (initSt [.arr 3, .bin [1, 2, 3, 4, 5], .int 9, .bin [6, 7], .bin [8, 9], .int 7] .skip)
        [.openArr, .openBin, .readByte, .close, .openBin, .next .int, .openBin, .close, .isEnd, .close,
         .openBin, .close, .next .int]
      = [.opened 3, .opened 5, .val (.byte 1), .closed, .no, .val (.int 9), .opened 2, .closed, .flag true, .closed,
         .opened 2, .closed, .val (.int 7)] := by
  decide

/-- single-byte MessagePack values: what a reader that was left inside a payload takes the next byte for -/
def byteTok (b : Nat) : Option Tok :=
  if b < 128 then some (.int b)
  else if b = 0xc0 then some .nil
  else if b = 0xc2 then some (.bool false)
  else if b = 0xc3 then some (.bool true)
  else if 0xe0 ≤ b ∧ b < 256 then some (.int (Int.ofNat b - 256))
  else none

/-- the scope machine WITHOUT `~CMsgPackReadBinaryScope` (the code before the fix): the reader stays where the last byte
    request left it, so the rest of the payload is what the enclosing scope reads next. At the token level: the `bin`
    token is replaced by its unread bytes taken as values. Domain of this description (otherwise `badReq`): unread bytes
    that are single-byte values, and no object scope below (an object scope may seek back and skip the intact value). -/
def stepBeforeBinFix (st : St) (req : Req) : Ans × St :=
  match st.stack, req with
  | .bin _ index :: tl, .close =>
    match st.rd.rest with
    | .bin bs :: _ =>
      if tl.all (fun s => match s with | .obj _ => false | _ => true) then
        match (bs.drop index).mapM byteTok with
        | some ts =>
          (.closed, { st with rd := { st.rd with doc := st.rd.doc.take st.rd.pos ++ ts ++ st.rd.doc.drop (st.rd.pos + 1) }, stack := tl })
        | none => (.badReq, st)
      else (.badReq, st)
    | _ => (.badReq, st)
  | _, _ => step st req

def runBeforeBinFix : St → List Req → List Ans
  | st, [] =>
    match st.deferred with
    | some e => [.err e]
    | none => []
  | st, q :: qs =>
    match stepBeforeBinFix st q with
    | (.err e, _) => [.err e]
    | (.terminate, _) => [.terminate]
    | (.badReq, _) => [.badReq]
    | (a, st') => a :: runBeforeBinFix st' qs

/-- why the destructor is needed (documented refutation of the unrepaired code): `[bin(1,2,3,4,5), 9] 7`, one byte read —
    without the skip the array's second element is read from inside the payload (`2`), and the sentinel too (`3`); these
    are the answers the unrepaired real code gave (`P2;P5;T01;C;Ti2;C;Ti3`) -/
theorem binary_left_partly_read_refuted_before_fix :
    runBeforeBinFix (initSt [.arr 2, .bin [1, 2, 3, 4, 5], .int 9, .int 7] .skip)
        [.openArr, .openBin, .readByte, .close, .next .int, .close, .next .int]
      = [.opened 2, .opened 5, .val (.byte 1), .closed, .val (.int 2), .closed, .val (.int 3)] ∧
    run (initSt [.arr 2, .bin [1, 2, 3, 4, 5], .int 9, .int 7] .skip)
        [.openArr, .openBin, .readByte, .close, .next .int, .close, .next .int]
      = [.opened 2, .opened 5, .val (.byte 1), .closed, .val (.int 9), .closed, .val (.int 7)] := by
  decide

/-- an ext value of any type and payload, and a timestamp, are complete values: `SkipValue` passes over exactly the one
    token (byte level: header + type + payload, `C05.reader_skip_exact`), so the history theorems above hold for
    objects that contain them -/
theorem ext_and_timestamp_are_complete_values (ty : Int) (p : List Nat) (sec : Int) (ns : Nat) :
    WFv [.ext ty p] ∧ WFv [.ts sec ns] ∧ WFv [keyTok (.ts sec ns)] :=
  ⟨wfv_scalar _ rfl, wfv_scalar _ rfl, wfv_scalar _ rfl⟩

/-- unread ext values and timestamp keys in front of, between and behind the requested fields: passed over when the scan
    goes by and when the scope closes; a timestamp loads only into the timestamp target -/
example :
    run (initSt [.map 4, .str [97], .ext 5 [1, 2, 3], .ts 5 0, .ext (-128) [], .str [98], .int 5, .int 3, .ts 1700000000 999999999, .int 7] .skip)
        [.openObj, .get (.str [98]) .int, .get (.int 3) .ts, .get (.ts 5 0) .ts, .get (.int 3) .int, .get (.str [97]) .ts, .close, .next .int]
      = [.opened 4, .val (.int 5), .val (.ts 1700000000 999999999), .no, .no, .no, .closed, .val (.int 7)] := by
  decide

/-- an integer token outside int64 (a uint64 value ≥ 2^63) does not fit the int64 target: Overflow, not a value -/
example :
    run (initSt [.int 9223372036854775808] .throwError) [.next .int] = [.err .overflow] ∧
    run (initSt [.int 9223372036854775807] .throwError) [.next .int] = [.val (.int 9223372036854775807)] ∧
    run (initSt [.int (-9223372036854775808)] .throwError) [.next .int] = [.val (.int (-9223372036854775808))] := by
  decide

/-! non-vacuity: layouts that satisfy `Layout.WF` and `Layout.ArrWF`, and histories on them -/

def exampleLayout : Layout := ⟨[.map 2], [(.str [97], [.arr 2, .int 1, .int 2]), (.int 5, [.str [120]])], [.int 7]⟩

example : exampleLayout.WF := by
  intro e he
  simp [exampleLayout] at he
  rcases he with rfl | rfl
  · exact wfv_arr [[.int 1], [.int 2]] (by intro v hv; simp at hv; rcases hv with rfl | rfl <;> exact wfv_scalar _ rfl)
  · exact wfv_scalar _ rfl

example : exampleLayout.ArrWF := by
  intro e he n ts h
  simp [exampleLayout] at he
  rcases he with rfl | rfl
  · exact ⟨[[.int 1], [.int 2]], rfl, by intro v hv; simp at hv; rcases hv with rfl | rfl <;> exact wfv_scalar _ rfl⟩
  · simp at h

/-- a layout with an ext value, a timestamp key and a `bin` value -/
def exampleLayout2 : Layout :=
  ⟨[.map 3], [(.str [97], [.bin [1, 2, 3]]), (.ts 5 0, [.ext 7 [9, 9]]), (.int 5, [.str [120]])], [.int 7]⟩

example : exampleLayout2.WF := by
  intro e he
  simp [exampleLayout2] at he
  rcases he with rfl | rfl | rfl <;> exact wfv_scalar _ rfl

example : exampleLayout2.ArrWF := by
  intro e he n ts h
  simp [exampleLayout2] at he
  rcases he with rfl | rfl | rfl <;> simp at h

-- the `bin` value read partly, fully, not at all and beyond its end; OpenBinaryScope on values that are not `bin`
example : (runReqs [.bin (.str [97]) 1, .get (.int 5) .str, .bin (.str [97]) 3, .bin (.ts 5 0) 0, .bin (.str [97]) 0, .bin (.int 5) 2,
    .get (.int 5) .str] ⟨1, 3, 0, none⟩ ⟨exampleLayout2.doc, 1, .skip⟩).toOption.map (fun x => x.1.length) = some 7 ∧
    (runReqs [.bin (.str [97]) 4] ⟨1, 3, 0, none⟩ ⟨exampleLayout2.doc, 1, .skip⟩).toOption.isNone = true := by
  decide

-- an array read partly (one of two elements), then fields before and after it, then the array again in full
example : (runReqs [.arr (.str [97]) [.int], .get (.int 5) .str, .arr (.str [97]) [.int, .int], .arr (.str [97]) [], .get (.int 5) .str]
    ⟨1, 2, 0, none⟩ ⟨exampleLayout.doc, 1, .skip⟩).toOption.map (fun x => x.1.length) = some 5 := by
  decide

example : (runGets [(.int 5, .str), (.str [97], .int), (.str [122], .int), (.int 5, .str)] ⟨1, 2, 0, none⟩
    ⟨exampleLayout.doc, 1, .skip⟩).toOption.map (·.1) = some [some (.str [120]), none, none, some (.str [120])] := by
  decide

/-- key comparison of the object scope (`CVariableKey::operator==`) is equality of the integers, whichever C++ integer type the
    caller passes the key as: an absent key never "matches" a stored key through a two's-complement coincidence
    (`hb` names the widths C++ has; the proof does not use it: `eqKey_iff` holds for every width) -/
theorem key_compare_is_integer_equality (st : Scope.VarKey.Stored) (t : Scope.VarKey.ITy) (v : Int)
    (hb : t.bits = 8 ∨ t.bits = 16 ∨ t.bits = 32 ∨ t.bits = 64) (hv : t.holds v) (hs : st.holds) :
    Scope.VarKey.eqKey st t v = true ↔ st.val = v :=
  Scope.VarKey.eqKey_iff st t v hv hs

-- premises satisfiable on a non-trivial instance: −1 as int32 against the stored uint64 key 4294967295
example : (⟨32, true⟩ : Scope.VarKey.ITy).holds (-1) ∧ (Scope.VarKey.Stored.u 4294967295).holds ∧
    Scope.VarKey.eqKey (.u 4294967295) ⟨32, true⟩ (-1) = false := by
  refine ⟨by simp [Scope.VarKey.ITy.holds], by simp [Scope.VarKey.Stored.holds], by decide⟩

end BSVerif.Props.C03
