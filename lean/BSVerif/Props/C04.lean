/-
  C04 — Numbers load exactly or are reported per policy, never silently altered
  (conversion layer: Convert::To / TryTo between arithmetic types and Detail::ConvertByPolicy).

  Quantifiers: every pair of integer types of 8/16/32/64 bits and either signedness (incl. the
  character types), `bool`, both floating formats; every source value of the source type; both
  values of both policies. Floating-point hardware operations are a parameter `ops` constrained by
  the explicit laws `FloatLaws`; `refOps` is the IEEE 754 reference instance.
-/
import BSVerif.Num.Lemmas
import BSVerif.Num.Spec
import BSVerif.Num.NanLemmas

namespace BSVerif.Props.C04
open BSVerif.Num

/-- `Detail::To(S → T)` on integer types: the value itself when `T` can hold it, `std::out_of_range` otherwise. -/
theorem conv_exact (S T : IntTy) (hS : S.Valid) (hT : T.Valid) (v : Int) (hv : S.Fits v) :
    convIntInt S T v = if T.Fits v then .ok v else .err .outOfRange :=
  convIntInt_exact S T hS.pos hT.pos v hv

example : (⟨16, false⟩ : IntTy).Valid ∧ (⟨8, true⟩ : IntTy).Valid ∧ (⟨16, false⟩ : IntTy).Fits 65535 := by decide

/-- No conversion between integer types ever stores a value different from the source
    (no truncation, no wrap-around, no sign change) and none reaches undefined behaviour. -/
theorem conv_never_alters (S T : IntTy) (hS : S.Valid) (hT : T.Valid) (v : Int) (hv : S.Fits v) :
    (∀ r, convIntInt S T v = .ok r → r = v ∧ T.Fits r) ∧ (∀ w, convIntInt S T v ≠ .ub w) ∧
    convIntInt S T v ≠ .err .invalidArgument := by
  rw [conv_exact S T hS hT v hv]
  by_cases h : T.Fits v <;> simp [h]

/-- integer → bool: only 0 and 1 are accepted (of any integer `v`; that it is a value of `S` is not needed) -/
theorem conv_bool_exact (S : IntTy) (hS : S.Valid) (v : Int) (hv : S.Fits v) :
    convIntBool S v = if Ty.bool.FitsInt v then .ok v else .err .outOfRange :=
  convIntBool_exact S hS.one_lt v

/-- bool → integer: always exact -/
theorem conv_from_bool_exact (T : IntTy) (hT : T.Valid) (x : Int) (hx : Ty.bool.FitsInt x) :
    convBoolInt T x = .ok x :=
  convBoolInt_exact T hT.one_lt x (by simp only [Ty.FitsInt] at hx; omega)

/-- same source and target type: the value is passed through bit for bit (also NaNs) -/
theorem conv_same_type_identity (ops : FloatOps) (T : Ty) (v : Val) : convTo ops T T v = .ok v := by
  simp [convTo]

/-- a floating value offered to an integer or bool target is "another kind": invalid_argument, whatever its value -/
theorem float_to_integer_is_mismatch (ops : FloatOps) (F : FloatFmt) (T : Ty) (hT : T.isFloat = false) (b : Nat) :
    convTo ops (.flt F) T (.flt b) = .err .invalidArgument := by
  cases T with
  | bool => simp [convTo]
  | int t => simp [convTo]
  | flt f => simp [Ty.isFloat] at hT

/-- Whatever the hardware operations are: a stored float truncates back to exactly the source integer. -/
theorem int_to_float_sound (ops : FloatOps) (S : IntTy) (F : FloatFmt) (v : Int) (f : Nat)
    (h : convIntFloat ops S F v = .ok f) : f = ops.ofInt F v ∧ ops.toInt F f = some v := by
  unfold convIntFloat at h
  dsimp only at h
  split at h
  · cases h
  · split at h
    · cases h
    · rename_i back hb
      split at h
      · rename_i hc
        cases h
        refine ⟨rfl, ?_⟩
        unfold castFloatToInt at hb
        split at hb
        · rename_i t ht
          split at hb
          · cases hb; rw [ht, hc.1]
          · cases hb
        · cases hb
      · cases h

/-- Under the floating-point laws the (fixed) code never evaluates the undefined cast back, for any
    integer type and any source value. -/
theorem int_to_float_no_ub (ops : FloatOps) (L : FloatLaws ops) (S : IntTy) (hS : S.Valid) (F : FloatFmt)
    (v : Int) (hv : S.Fits v) :
    (∀ w, convIntFloat ops S F v ≠ .ub w) ∧ convIntFloat ops S F v ≠ .err .invalidArgument := by
  rw [convIntFloat_cases ops L S hS F v hv]
  by_cases h : ops.tr F v = some v <;> simp [h]

/-- … and it answers exactly: the float when the conversion is exact, `std::out_of_range` when it is not. For every integer
    type: "small" is the bound `Small` of the laws, within which all of their values lie (`IntTy.fits_small`). -/
theorem int_to_float_exact_small (ops : FloatOps) (L : FloatLaws ops) (S : IntTy) (hS : S.Valid) (F : FloatFmt)
    (v : Int) (hv : S.Fits v) :
    convIntFloat ops S F v = if ops.tr F v = some v then .ok (ops.ofInt F v) else .err .outOfRange :=
  convIntFloat_cases ops L S hS F v hv

/-- the laws are consistent (toy instance: floats that are integers) -/
example : FloatLaws toyOps := toyOps_laws

/-- Witness for the finding repaired by `fix: do not cast an integer rounded up to 2^N back…`:
    without the guard, INT64_MAX → float evaluates `static_cast<int64_t>(9.223372e18f)` — undefined. -/
theorem unguarded_cast_back_is_ub :
    convIntFloatUnguarded refOps ⟨64, true⟩ .f32 (2 ^ 63 - 1) = .ub "float-cast-overflow" ∧
    convIntFloatUnguarded refOps ⟨64, false⟩ .f64 (2 ^ 64 - 1) = .ub "float-cast-overflow" ∧
    convIntFloatUnguarded refOps ⟨32, true⟩ .f32 (2 ^ 31 - 1) = .ub "float-cast-overflow" ∧
    convIntFloat refOps ⟨64, true⟩ .f32 (2 ^ 63 - 1) = .err .outOfRange ∧
    convIntFloat refOps ⟨64, false⟩ .f64 (2 ^ 64 - 1) = .err .outOfRange ∧
    convIntFloat refOps ⟨32, true⟩ .f32 (2 ^ 31 - 1) = .err .outOfRange := by
  decide +kernel

/-- float → double: always stored, as the hardware widens it -/
theorem float_widen_total (ops : FloatOps) (b : Nat) :
    convFloatFloat ops .f32 .f64 b = .ok (ops.cvt .f32 .f64 b) := by
  simp [convFloatFloat, FloatFmt.width]

/-- double → float: stored (converted by the hardware) when the value is infinite, NaN, or `lowest ≤ v ≤ max`; otherwise — a finite
    value beyond the range — `std::out_of_range`; never anything else -/
theorem float_narrow_cases (ops : FloatOps) (b : Nat) :
    convFloatFloat ops .f64 .f32 b =
      if isFinite .f64 b = false ∨ (ops.le .f32 FloatFmt.f32.lowestBits .f64 b = true ∧ ops.le .f64 b .f32 FloatFmt.f32.maxBits = true)
      then .ok (ops.cvt .f64 .f32 b) else .err .outOfRange := by
  simp [convFloatFloat, FloatFmt.width]

/-- the model's answer as seen by the Spec -/
def fltAnswer : Outcome Nat → Option ConvAnswer
  | .ok r => some (.ok (.flt r))
  | .err e => some (.err e)
  | .ub _ => none

/-- FULL statement for double → float on the IEEE reference operations: every answer is one the Spec admits
    (exact/nearest value when `lowest ≤ v ≤ max`, ±∞ and NaN carried over, out_of_range only for finite values
    beyond the range). -/
def NarrowFull : Prop :=
  ∀ b : Nat, ∃ a, fltAnswer (convFloatFloat refOps .f64 .f32 b) = some a ∧ acceptFromFloat .f64 (.flt .f32) b a = true

/-- **Holds on the repaired code** (it was refuted by +∞ before `!std::isfinite(v)` was added to the range test;
    witness `num.conv f64 f32 7ff0000000000000` stays in corpus/C04 as a regression op). -/
theorem float_narrow_full : NarrowFull := by
  intro b
  unfold convFloatFloat acceptFromFloat
  have hne : (FloatFmt.f64 = FloatFmt.f32) = False := by simp
  have hw : ¬ (32 > 64) := by omega
  by_cases hfin : isFinite .f64 b = true
  · simp only [FloatFmt.width, hne, ↓reduceIte, hfin, Bool.not_true, Bool.false_eq_true, refOps]
    by_cases hr : fle .f32 FloatFmt.f32.lowestBits .f64 b = true ∧ fle .f64 b .f32 FloatFmt.f32.maxBits = true
    · exact ⟨.ok (.flt (cvt .f64 .f32 b)), by simp [hw, hr, fltAnswer], by simp [hr]⟩
    · exact ⟨.err .outOfRange, by simp [hw, hr, fltAnswer], by simp [hr]⟩
  · have hf : isFinite .f64 b = false := by simpa using hfin
    refine ⟨.ok (.flt (cvt .f64 .f32 b)), by simp [FloatFmt.width, hw, hf, fltAnswer, refOps], ?_⟩
    simp only [hne, ↓reduceIte, hf, Bool.not_false]
    by_cases hn : isNaN .f64 b = true
    · have hd : decode .f64 b = .nan := by simpa [isNaN] using hn
      simp [hn, cvt_nan_is_nan b hd]
    · simp [hn]

example : isFinite .f64 0x7FF0000000000000 = false ∧ isFinite .f64 0x47EFFFFFE0000000 = true := by decide +kernel

/-- well-typed source value -/
def WellTyped : Ty → Val → Prop
  | .bool, .int x => x = 0 ∨ x = 1
  | .int t, .int x => t.Valid ∧ t.Fits x
  | .flt _, .flt _ => True
  | _, _ => False

/-- a target type the library has: an integer type of one of the four widths, `bool`, `float`, `double` -/
def TyValid : Ty → Prop
  | .int t => t.Valid
  | _ => True

/-- Under the floating-point laws `Detail::To` is total on every pair of arithmetic types: it answers a value or one
    of the two exception classes — never undefined behaviour; and an integer-valued answer is the source value itself. -/
theorem convTo_total (ops : FloatOps) (L : FloatLaws ops) (S T : Ty) (v : Val) (hv : WellTyped S v) (hT : TyValid T) :
    (∀ w, convTo ops S T v ≠ .ub w) ∧
    (∀ x r, v = .int x → convTo ops S T v = .ok (.int r) → r = x) := by
  by_cases hST : S = T
  · subst hST
    refine ⟨by simp [convTo], ?_⟩
    intro x r h1 h2
    simp only [convTo, ↓reduceIte, h1, Outcome.ok.injEq, Val.int.injEq] at h2
    exact h2.symm
  · cases S with
    | bool =>
      cases v with
      | flt b => simp [WellTyped] at hv
      | int x =>
        simp only [WellTyped] at hv
        cases T with
        | bool => exact absurd rfl hST
        | int t =>
          simp only [TyValid] at hT
          have := convBoolInt_exact t hT.one_lt x hv
          simp [convTo, this]
        | flt f =>
          simp only [convTo, hST, ↓reduceIte]
          constructor
          · intro w
            cases h : convBoolFloat ops f x with
            | ok r => simp
            | err e => simp
            | ub w' => exact absurd h (convBoolFloat_no_ub ops f x w')
          · intro y r _
            cases h : convBoolFloat ops f x <;> simp
    | int s =>
      cases v with
      | flt b => simp [WellTyped] at hv
      | int x =>
        simp only [WellTyped] at hv
        cases T with
        | bool =>
          have := convIntBool_exact s hv.1.one_lt x
          simp only [convTo, hST, ↓reduceIte, this]
          by_cases h : 0 ≤ x ∧ x ≤ 1 <;> simp [h]
        | int t =>
          simp only [TyValid] at hT
          have := convIntInt_exact s t hv.1.pos hT.pos x hv.2
          simp only [convTo, hST, ↓reduceIte, this]
          by_cases h : t.Fits x <;> simp [h]
        | flt f =>
          have := convIntFloat_cases ops L s hv.1 f x hv.2
          simp only [convTo, hST, ↓reduceIte, this]
          by_cases h : ops.tr f x = some x <;> simp [h]
    | flt fs =>
      cases v with
      | int x => simp [WellTyped] at hv
      | flt b =>
        cases T with
        | bool => simp [convTo]
        | int t => simp [convTo]
        | flt ft =>
          simp only [convTo, hST, ↓reduceIte]
          constructor
          · intro w
            cases h : convFloatFloat ops fs ft b with
            | ok r => simp
            | err e => simp
            | ub w' => exact absurd h (convFloatFloat_no_ub ops fs ft b w')
          · intro y r h; cases h

example : WellTyped (.int ⟨64, true⟩) (.int (2 ^ 63 - 1)) ∧ TyValid (.flt .f32) := by
  refine ⟨⟨by decide, by decide⟩, trivial⟩

/-- `Convert::TryTo`: a value exactly when `Convert::To` yields that value, empty exactly when it throws -/
theorem tryTo_spec (ops : FloatOps) (S T : Ty) (v : Val) :
    (∀ r, tryTo ops S T v = .ok (some r) ↔ convertTo ops S T v = .ok r) ∧
    (tryTo ops S T v = .ok none ↔ ∃ e, convertTo ops S T v = .err e) := by
  unfold tryTo
  cases h : convertTo ops S T v <;> simp

/-- The four outcomes of `ConvertByPolicy` with the exact case split: loaded with exactly the converted
    value; otherwise the target is untouched and the call either returns false (Skip) or throws
    Overflow (out_of_range under ThrowError) / MismatchedTypes (invalid_argument or non-convertible
    types under ThrowError). This is `convertByPolicy` written out; `hub` only says that the row `.ub w`, which both sides
    pass on unchanged, does not occur. -/
theorem policy_total {α : Type} (convertible : Bool) (r : Outcome α) (mis ovf : Pol) (hub : ∀ w, r ≠ .ub w) :
    convertByPolicy convertible r mis ovf =
      if convertible = true then
        match r with
        | .ok v => .loaded v
        | .err .outOfRange => if ovf = .throwError then .thrown .overflow else .skipped
        | .err .invalidArgument => if mis = .throwError then .thrown .mismatched else .skipped
        | .ub w => .ub w
      else if mis = .throwError then .thrown .mismatched else .skipped := by
  unfold convertByPolicy
  cases convertible <;> simp
  cases r with
  | ok v => rfl
  | err e => cases e <;> rfl
  | ub w => exact absurd rfl (hub w)

/-- Integers through `ConvertByPolicy`: loaded exactly, or — when the target cannot hold the value — skipped
    or Overflow according to `OverflowNumberPolicy`; `MismatchedTypesPolicy` is irrelevant; nothing else. -/
theorem policy_int_exact (S T : IntTy) (hS : S.Valid) (hT : T.Valid) (v : Int) (hv : S.Fits v) (mis ovf : Pol) :
    convertByPolicy true (convIntInt S T v) mis ovf =
      if T.Fits v then .loaded v
      else if ovf = .throwError then .thrown .overflow else .skipped := by
  rw [conv_exact S T hS hT v hv]
  by_cases h : T.Fits v <;> simp [convertByPolicy, h]

/-- (after `fix: ConvertByPolicy reported non-convertible types as ParsingError…`) no conversion outcome
    is ever reported as ParsingError -/
theorem policy_never_parsing {α : Type} (convertible : Bool) (r : Outcome α) (mis ovf : Pol) :
    convertByPolicy convertible r mis ovf ≠ .thrown .parsing := by
  unfold convertByPolicy
  cases convertible <;> simp
  · split <;> simp
  · cases r with
    | ok v => simp
    | err e => cases e <;> simp <;> split <;> simp
    | ub w => simp

/-- check of every law of `FloatLaws` on a list of integers (adjacent pairs for the binary laws) -/
def lawsHoldOn (ops : FloatOps) (F : FloatFmt) (vals : List Int) : Bool :=
  (vals.all fun v => (ops.tr F v).isSome) &&
  ((vals.zip (vals.drop 1)).all fun (v, w) =>
    match ops.tr F v, ops.tr F w with
    | some t, some u =>
      (decide (v ≤ w) → decide (t ≤ u)) && (ops.lt F (ops.ofInt F v) F (ops.ofInt F w) == decide (t < u)) &&
      (ops.lt F (ops.ofInt F w) F (ops.ofInt F v) == decide (u < t))
    | _, _ => false) &&
  ((List.range 65).all fun k => ops.tr F (2 ^ k) == some (2 ^ k) && ops.tr F (-(2 ^ k)) == some (-(2 ^ k))) &&
  (ops.tr F 0 == some 0) && (ops.ofInt F 0 == fzero)

/-- sample: every ±2^k and ±2^k ± 1 (k ≤ 64), in ascending triples that overlap for small k, so neither sorted nor free of
    repetitions: `lawsHoldOn` asks monotonicity of an adjacent pair only where `v ≤ w` -/
def lawSample : List Int :=
  ((List.range 65).reverse.flatMap fun k => [-(2 ^ k : Int) - 1, -(2 ^ k : Int), -(2 ^ k : Int) + 1]) ++
  ((List.range 65).flatMap fun k => [(2 ^ k : Int) - 1, (2 ^ k : Int), (2 ^ k : Int) + 1])

/-- The IEEE reference instance satisfies every law on the sample (the laws for *all* integers are
    assumptions about IEEE 754 arithmetic, not proved here). -/
theorem refOps_laws_sample :
    lawsHoldOn refOps .f32 (lawSample.filter fun v => decide (-(2 ^ 64 : Int) ≤ v ∧ v ≤ 2 ^ 64)) = true ∧
    lawsHoldOn refOps .f64 (lawSample.filter fun v => decide (-(2 ^ 64 : Int) ≤ v ∧ v ≤ 2 ^ 64)) = true := by
  decide +kernel

end BSVerif.Props.C04
