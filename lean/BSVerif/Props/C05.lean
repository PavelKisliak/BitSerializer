/-
  C05 (reader-level part) — a skipped value consumes exactly that value.

  All names are prefixed `reader_`; the scope-level part of C05 (array/object scopes, mIndex) is Props/C05Scope.lean,
  imported here so that the whole property is reached through this module.

  Quantifiers: ALL byte strings `bs` (bytes < 256), ALL positions, ALL nesting depths and shapes.
  `Spec.objects 1 inp = some rest` is the specification's "inp starts with exactly one well-formed
  object, followed by rest" (balance counter over Spec.decodeToken, written from the format table).
  The model's SkipValueImpl is driven by the GENERATED ByteCodeTable (`table_matches_spec` in C07).

    reader_skip_exact           well-formed object at pos  ⇒ SkipValue ends exactly behind it
    reader_skip_only_wellformed SkipValue succeeded        ⇒ it skipped exactly one well-formed object
    reader_skip_rejects         no well-formed object      ⇒ ParsingError (never anything else)
    reader_mismatch_consumes_one / reader_int_mismatch_consumes_one
                                a value of a foreign type under MismatchedTypesPolicy::Skip: ReadValue
                                returns false at exactly the end of the object, whatever its nesting
    reader_nil_always_skipped   nil is skipped under either policy
-/
import BSVerif.Props.C05Scope
import BSVerif.MsgPack.ReadLemmas

namespace BSVerif.Props.C05
open BSVerif BSVerif.MsgPack BSVerif.MsgPack.Spec BSVerif.MsgPack.Model BSVerif.Generated

/-- **skip_exact.** If the input at `pos` starts with one well-formed object (any nesting) followed by
    `rest`, SkipValue succeeds and the new position is exactly where `rest` begins. -/
theorem reader_skip_exact (bs : Bytes) (hb : BytesOk bs) (pos : Nat) (hp : pos ≤ bs.length) (rest : Bytes)
    (hwf : objects 1 (bs.drop pos) = some rest) :
    skip bs pos = .ok (bs.length - rest.length) ∧ bs.drop (bs.length - rest.length) = rest
      ∧ pos < bs.length - rest.length := by
  obtain ⟨n, hn0, hn, rfl⟩ := objects_rest_pos hwf
  rw [List.length_drop] at hn
  have e : bs.length - ((bs.drop pos).drop n).length = pos + n := by simp only [List.length_drop]; omega
  rw [skip_eq bs hb pos hp, hwf, e]
  exact ⟨congrArg _ e, (List.drop_drop ..).symm, by omega⟩

/-- Conversely: whenever SkipValue succeeds, what it passed over was exactly one well-formed object. -/
theorem reader_skip_only_wellformed (bs : Bytes) (hb : BytesOk bs) (pos : Nat) (hp : pos ≤ bs.length) (p : Nat)
    (h : skip bs pos = .ok p) :
    ∃ rest, objects 1 (bs.drop pos) = some rest ∧ p = bs.length - rest.length ∧ bs.drop p = rest := by
  rw [skip_eq bs hb pos hp] at h
  cases ho : objects 1 (bs.drop pos) with
  | none => rw [ho] at h; cases h
  | some rest =>
    rw [ho] at h
    simp only [posResult, Except.ok.injEq] at h
    refine ⟨rest, rfl, h.symm, ?_⟩
    have := (reader_skip_exact bs hb pos hp rest ho).2.1
    rw [← h]; exact this

/-- Anything that is not a well-formed object (truncated at any depth, 0xC1, empty) is rejected with a
    parsing error — and no other failure (recursion budget, internal error) is possible. -/
theorem reader_skip_rejects (bs : Bytes) (hb : BytesOk bs) (pos : Nat) (hp : pos ≤ bs.length)
    (hill : objects 1 (bs.drop pos) = none) : skip bs pos = .error .parsing := by
  rw [skip_eq bs hb pos hp, hill]; rfl

theorem reader_skip_total (bs : Bytes) (hb : BytesOk bs) (pos : Nat) (hp : pos ≤ bs.length) :
    (∃ p, skip bs pos = .ok p) ∨ skip bs pos = .error .parsing := by
  rw [skip_eq bs hb pos hp]
  cases objects 1 (bs.drop pos) with
  | none => exact Or.inr rfl
  | some r => exact Or.inl ⟨_, rfl⟩

/-- **skip_exact, document form.** `wf v → skip (pre ++ v ++ rest) = position of rest`, for every
    well-formed object `v` (any nesting), any bytes before and after it. -/
theorem reader_skip_one_object (pre v rest : Bytes) (hb : BytesOk (pre ++ v ++ rest)) (hv : OneObject v) :
    skip (pre ++ v ++ rest) pre.length = .ok (pre.length + v.length) := by
  have hd : (pre ++ v ++ rest).drop pre.length = v ++ rest := by
    rw [List.append_assoc, List.drop_left]
  have ho : objects 1 ((pre ++ v ++ rest).drop pre.length) = some rest := by
    rw [hd]
    simpa using objects_append rest hv
  have := (reader_skip_exact _ hb pre.length (by simp) rest ho).1
  rw [this]
  simp only [List.length_append]
  congr 1; omega

/-- **ext values (timestamps included) are skipped as a whole**: an ext value of any type and payload, encoded in ANY
    format able to hold it (fixext 1/2/4/8/16, ext 8/16/32), anywhere in the input: SkipValue lands exactly behind its
    header + type byte + payload. This is the byte-level content of the token-level statement that an ext value / a
    timestamp is ONE token of the scope model (`C03.ext_and_timestamp_are_complete_values`): a field or key of that
    kind which is never requested is passed over completely. -/
theorem reader_skip_ext_exact (f : Format) (ty : Int) (d enc : Bytes) (he : encodeAs f (.ext ty d) = some enc)
    (pre rest : Bytes) (hb : BytesOk (pre ++ enc ++ rest)) :
    skip (pre ++ enc ++ rest) pre.length = .ok (pre ++ enc).length := by
  -- an ext token has no children: the one token is the whole object
  have hv : OneObject enc := by
    rw [OneObject, show (1 : Nat) = 0 + 1 from rfl, objects_succ, ← List.append_nil enc, decode_encode f _ enc he []]
    rfl
  rw [List.length_append]
  exact reader_skip_one_object pre enc rest hb hv

-- hypotheses satisfiable: timestamp 32 (fixext 4, type -1) and a 3-byte ext 8 of type 5 between two other values
example : encodeAs .fixext4 (.ext (-1) [0x65, 0x53, 0xf1, 0x00]) = some [0xd6, 0xff, 0x65, 0x53, 0xf1, 0x00] ∧
    encodeAs .ext8 (.ext 5 [1, 2, 3]) = some [0xc7, 3, 5, 1, 2, 3] := by decide

example : skip ([0x01] ++ [0xc7, 3, 5, 1, 2, 3] ++ [0x07]) 1 = .ok 7 :=
  reader_skip_ext_exact .ext8 5 [1, 2, 3] [0xc7, 3, 5, 1, 2, 3] (by decide) [0x01] [0x07] (by decide)

/-- **Truncation at any depth.** Every strict prefix of a well-formed object is rejected with a parsing error. -/
theorem reader_skip_truncated (pre v : Bytes) (n : Nat) (hn : n < v.length) (hb : BytesOk (pre ++ v.take n)) (hv : OneObject v) :
    skip (pre ++ v.take n) pre.length = .error .parsing := by
  apply reader_skip_rejects _ hb _ (by simp)
  rw [List.drop_left]
  cases ho : objects 1 (v.take n) with
  | none => rfl
  | some r =>
    have h1 := objects_append (v.drop n) ho
    rw [List.take_append_drop] at h1
    unfold OneObject at hv
    rw [hv] at h1
    simp only [Option.some.injEq] at h1
    have h3 : (r ++ v.drop n).length = 0 := by rw [← h1]; rfl
    simp only [List.length_append, List.length_drop] at h3
    omega

/-- **HandleMismatchedTypesPolicy** under Skip (or for nil under either policy) is exactly SkipValue. -/
theorem reader_handleMismatch_skip (bs : Bytes) (pos ty : Nat) (misThrow : Bool) (h : misThrow = false ∨ ty = Msgpack.vtNil) :
    handleMismatch bs pos ty misThrow = skip bs pos := by
  unfold handleMismatch
  rcases h with h | h <;> simp [h]

theorem reader_nil_always_skipped (bs : Bytes) (pos : Nat) (misThrow : Bool) :
    handleMismatch bs pos Msgpack.vtNil misThrow = skip bs pos :=
  reader_handleMismatch_skip bs pos _ misThrow (Or.inr rfl)

/-- under ThrowError every non-nil mismatch raises MismatchedTypes without touching the input -/
theorem reader_handleMismatch_throw (bs : Bytes) (pos ty : Nat) (h : ty ≠ Msgpack.vtNil) :
    handleMismatch bs pos ty true = .error .mismatched := by
  unfold handleMismatch; simp [h]

/-- **mismatch_consumes_one (integer targets).** A first byte that is neither an integer format nor a
    boolean, policy Skip, a well-formed object at `pos`: ReadValue returns false and the position is
    exactly behind that object. -/
theorem reader_int_mismatch_consumes_one (tgt : IntTy) (o : Opts) (hs : o.misThrow = false)
    (bs : Bytes) (hb : BytesOk bs) (pos : Nat) (hp : pos ≤ bs.length) (b : Nat) (hb0 : bs[pos]? = some b)
    (hforeign : ¬ (b < 0x80 ∨ b ≥ 0xE0) ∧ ¬ (0xCC ≤ b ∧ b ≤ 0xD3) ∧ b ≠ 0xC2 ∧ b ≠ 0xC3)
    (rest : Bytes) (hwf : objects 1 (bs.drop pos) = some rest) :
    readInteger tgt o bs pos = .ok (none, bs.length - rest.length) := by
  obtain ⟨h1, h2, h3, h4⟩ := hforeign
  unfold readInteger
  simp only [hb0]
  rw [if_neg h1]
  iterate 8 rw [if_neg (by omega)]
  rw [if_neg h3, if_neg h4, reader_handleMismatch_skip bs pos _ _ (Or.inl hs), (reader_skip_exact bs hb pos hp rest hwf).1]

/-- every other `ReadValue` / `Read*Size` ends in `mismatchTail`: under Skip it is ReadValueType
    followed by SkipValue -/
theorem reader_mismatchTail_skip {α : Type} (o : Opts) (hs : o.misThrow = false) (bs : Bytes) (pos : Nat) :
    (mismatchTail o bs pos : RR α) =
      match readValueType bs pos with
      | .error e => .error e
      | .ok _ => match skip bs pos with | .ok p => .ok (none, p) | .error e => .error e := by
  unfold mismatchTail
  cases readValueType bs pos with
  | error e => rfl
  | ok t => simp only; rw [reader_handleMismatch_skip bs pos t _ (Or.inl hs)]; cases skip bs pos <;> rfl

/-- **mismatch_consumes_one.** Every `ReadValue` / `Read*Size` overload other than the integer ones ends, when
    its own format tests fail, in `HandleMismatchedTypesPolicy(…, ReadValueType(), …); return false;`.
    Under Skip, with a well-formed object (ANY nesting) at `pos`, that returns false with the position
    exactly behind the object. -/
theorem reader_mismatch_consumes_one {α : Type} (o : Opts) (hs : o.misThrow = false) (bs : Bytes) (hb : BytesOk bs)
    (pos : Nat) (hp : pos ≤ bs.length) (rest : Bytes) (hwf : objects 1 (bs.drop pos) = some rest) :
    (mismatchTail o bs pos : RR α) = .ok (none, bs.length - rest.length) := by
  rw [reader_mismatchTail_skip o hs bs pos, (reader_skip_exact bs hb pos hp rest hwf).1]
  have hdec : ∃ t f r1, decodeToken (bs.drop pos) = some (t, f, r1) := by
    rw [objects_succ] at hwf
    cases hd : decodeToken (bs.drop pos) with
    | none => rw [hd] at hwf; cases hwf
    | some v => exact ⟨v.1, v.2.1, v.2.2, rfl⟩
  obtain ⟨t, f, r1, hd⟩ := hdec
  obtain ⟨ty, hty⟩ := readValueType_ok bs hb pos t f r1 hd
  rw [hty]

/-- e.g. the float reader: a first byte that is neither float 32 nor float 64 -/
theorem reader_f64_mismatch_consumes_one (o : Opts) (hs : o.misThrow = false) (bs : Bytes) (hb : BytesOk bs)
    (pos : Nat) (hp : pos ≤ bs.length) (b : Nat) (hb0 : bs[pos]? = some b) (hne : b ≠ 0xCB ∧ b ≠ 0xCA)
    (rest : Bytes) (hwf : objects 1 (bs.drop pos) = some rest) :
    readF64 o bs pos = .ok (none, bs.length - rest.length) := by
  unfold readF64
  simp only [hb0, hne.1, hne.2, if_false]
  exact reader_mismatch_consumes_one o hs bs hb pos hp rest hwf

/-- ... and the string reader: a first byte that is no str format -/
theorem reader_str_mismatch_consumes_one (o : Opts) (hs : o.misThrow = false) (bs : Bytes) (hb : BytesOk bs)
    (pos : Nat) (hp : pos ≤ bs.length) (b : Nat) (hb0 : bs[pos]? = some b)
    (hne : b / 32 ≠ 5 ∧ b ≠ 0xD9 ∧ b ≠ 0xDA ∧ b ≠ 0xDB)
    (rest : Bytes) (hwf : objects 1 (bs.drop pos) = some rest) :
    readStr o bs pos = .ok (none, bs.length - rest.length) := by
  unfold readStr
  simp only [hb0, hne.1, hne.2.1, hne.2.2.1, hne.2.2.2, if_false]
  exact reader_mismatch_consumes_one o hs bs hb pos hp rest hwf

example : objects 1 [0x92, 0x01, 0x81, 0xA1, 0x61, 0xC0, 0xC3] = some [0xC3] := by decide
example : skip [0x92, 0x01, 0x81, 0xA1, 0x61, 0xC0, 0xC3] 0 = .ok 6 := by rfl
example : objects 1 [0x92, 0x01] = none := by decide
example : skip [0xC1] 0 = .error .parsing := by rfl

end BSVerif.Props.C05
