/-
  C05 (scope level) — a skipped value never disturbs the loading of its neighbours: the MsgPack array, binary and root
  scopes (object scopes: Props/C03.lean; reader level: Props/C05.lean).
-/
import BSVerif.Props.C03

namespace BSVerif.Props.C05.Scope
open BSVerif.Scope

/-- the abstract outcome of loading kind `ty` from the element `v` -/
def elementAnswer (mis : Mis) (ty : Ty) (v : List Tok) : Ans :=
  match valueAnswer mis ty v with
  | .ok (some s) => .val s
  | .ok none => .no
  | .error e => .err e

/-- for every array scope state with elements left, every target kind and both policies, a `SerializeValue` on the next
    element either raises the policy's exception or consumes EXACTLY that element — loaded, or passed over as "not
    loaded" (mismatched kind with Skip, nil) — and advances the element index by exactly one: index and reader position
    stay in step (the invariant the property names; it was violated before commit b9a6bd3) -/
theorem array_element_consumes_one (r : Rd) (pre v rest : List Tok) (h : At r pre v rest) (hv : WFv v)
    (size index : Nat) (hlt : index < size) (tl : List Scope) (ty : Ty) (d : Option Err := none) :
    let res := step ⟨r, .arr size index :: tl, d⟩ (.next ty)
    res.1 = elementAnswer r.mis ty v ∧
    ((∀ e, res.1 ≠ .err e) →
      res.2.stack = .arr size (index + 1) :: tl ∧ res.2.rd.rest = rest ∧ res.2.rd.doc = r.doc ∧ res.2.rd.mis = r.mis ∧
      res.2.deferred = d) := by
  have hrest := rest_of_at h
  have hrv := readValue_of_rest hrest hv ty
  have hc := checkEnd_of_lt hlt
  unfold elementAnswer
  cases hva : valueAnswer r.mis ty v with
  | error e =>
    rw [hva] at hrv
    rw [step_arr_next_err hc hrv]
    exact ⟨rfl, fun hne => absurd rfl (hne e)⟩
  | ok a =>
    rw [hva] at hrv
    cases a with
    | some s => rw [step_arr_next_val hc hrv]; exact ⟨rfl, fun _ => ⟨rfl, rest_advance hrest, rfl, rfl, rfl⟩⟩
    | none => rw [step_arr_next_no hc hrv]; exact ⟨rfl, fun _ => ⟨rfl, rest_advance hrest, rfl, rfl, rfl⟩⟩

/-- **Unread elements are passed over when the array scope is destroyed**: with `size - index` complete values left in
    front of the reader, `close` lands exactly behind the last of them, notifies the parent and defers nothing — so the
    value that FOLLOWS the array is the next one the enclosing scope sees (the destructor's skip loop, fix 0b9e4f2;
    before it the reader was left inside the array) -/
theorem array_close_skips_unread (r : Rd) (pre rest : List Tok) (items : List (List Tok)) (hw : ∀ v ∈ items, WFv v)
    (h : At r pre items.flatten rest) (size index : Nat) (hsz : size = index + items.length) (tl : List Scope)
    (d : Option Err) :
    let res := step ⟨r, .arr size index :: tl, d⟩ .close
    res.1 = .closed ∧ res.2.stack = notifyParent tl ∧ res.2.deferred = d ∧
      res.2.rd = { r with pos := (pre ++ items.flatten).length } ∧ res.2.rd.rest = rest := by
  have hrest := rest_of_at h
  have hcl : arrClose size index r = .ok { r with pos := r.pos + items.flatten.length } := by
    rw [arrClose, show size - index = items.length by omega, arrCloseLoop_at items hw r rest hrest]
  rw [step_arr_close hcl]
  exact ⟨rfl, rfl, rfl, by rw [List.length_append, h.pos], rest_advance hrest⟩

/-- **a binary scope session**: opened on the `bin` value `bs` the reader stands at, `k ≤ |bs|` byte requests deliver
    the first `k` bytes and the destruction of the scope — wherever it stands — leaves the reader behind the value,
    notifies the parent and defers nothing; whatever is requested afterwards (`qs`) goes on from there -/
theorem binary_scope_session (r : Rd) (bs : List Nat) (rest' : List Tok) (h : r.rest = .bin bs :: rest') (k : Nat)
    (hk : k ≤ bs.length) (tl : List Scope) (d : Option Err) (qs : List Req) :
    run ⟨r, .bin bs.length 0 :: tl, d⟩ (List.replicate k .readByte ++ .close :: qs)
      = (bs.take k).map C03.byteAns ++ .closed :: run ⟨{ r with pos := r.pos + 1 }, notifyParent tl, d⟩ qs := by
  have hreads := binReads_at h k 0 (Nat.zero_le _)
  simp only [Nat.zero_add, hk, if_true, List.drop_zero] at hreads
  rw [C03.binReads_is_machine k bs.length 0 r tl d _ _ hreads (.close :: qs), run_cons_of_step (step_bin_close (binClose_at h k hk))]

/-- **`OpenBinaryScope` on an array element that is not a `bin`**: "no", and NOTHING changes — the value stays in place
    and is not counted (`mIndex` unchanged), so the following `OpenArrayScope`/`SerializeValue` finds it as the same element -/
theorem open_binary_leaves_other_value (r : Rd) (pre v rest : List Tok) (h : At r pre v rest) (t : Tok) (ts : List Tok)
    (hv : v = t :: ts) (hn : ∀ bs, t ≠ .bin bs) (size index : Nat) (hlt : index < size) (tl : List Scope) (d : Option Err) :
    step ⟨r, .arr size index :: tl, d⟩ .openBin = (.no, ⟨r, .arr size index :: tl, d⟩) ∧
    step ⟨r, .root :: tl, d⟩ .openBin = (.no, ⟨r, .root :: tl, d⟩) := by
  have hb := isBinary_other (rest_of_at (hv ▸ h)) hn
  exact ⟨step_arr_openBin_other (checkEnd_of_lt hlt) hb, step_root_openBin_other hb⟩

/-- **a `bin` element of an array opened as a binary scope and left wherever the caller likes** counts as exactly one
    element and is passed over as exactly one value -/
theorem array_binary_element_consumes_one (r : Rd) (pre rest : List Tok) (bs : List Nat) (h : At r pre [.bin bs] rest)
    (size index : Nat) (hlt : index < size) (k : Nat) (hk : k ≤ bs.length) (tl : List Scope) (d : Option Err) (qs : List Req) :
    run ⟨r, .arr size index :: tl, d⟩ (.openBin :: (List.replicate k .readByte ++ .close :: qs))
      = .opened bs.length :: ((bs.take k).map C03.byteAns ++ .closed ::
          run ⟨{ r with pos := (pre ++ [Tok.bin bs]).length }, .arr size (index + 1) :: tl, d⟩ qs) := by
  have hrest : r.rest = .bin bs :: rest := rest_of_at h
  rw [run_cons_of_step (step_arr_openBin_bin (checkEnd_of_lt hlt) (isBinary_bin hrest) (readBinarySize_bin hrest)),
    binary_scope_session r bs rest hrest k hk, h.pos, List.length_append]
  rfl

/-- the same at the root -/
theorem root_binary_value_consumes_one (r : Rd) (pre rest : List Tok) (bs : List Nat) (h : At r pre [.bin bs] rest)
    (k : Nat) (hk : k ≤ bs.length) (tl : List Scope) (d : Option Err) (qs : List Req) :
    run ⟨r, .root :: tl, d⟩ (.openBin :: (List.replicate k .readByte ++ .close :: qs))
      = .opened bs.length :: ((bs.take k).map C03.byteAns ++ .closed ::
          run ⟨{ r with pos := (pre ++ [Tok.bin bs]).length }, .root :: tl, d⟩ qs) := by
  have hrest : r.rest = .bin bs :: rest := rest_of_at h
  rw [run_cons_of_step (step_root_openBin_bin (isBinary_bin hrest) (readBinarySize_bin hrest)),
    binary_scope_session r bs rest hrest k hk, h.pos, List.length_append]
  rfl

/-- one byte request past the end of the value is OutOfRange (`CheckEnd`), whatever the policy -/
theorem binary_read_past_end (r : Rd) (size : Nat) (tl : List Scope) (d : Option Err) :
    (step ⟨r, .bin size size :: tl, d⟩ .readByte).1 = .err .outOfRange := by
  unfold step
  dsimp only
  rw [checkEnd, if_pos rfl]

/-- non-vacuity: an array of byte containers whose middle element is a string (the scenario of the property text for
    byte containers): `OpenBinaryScope` answers "no" and leaves it, `OpenArrayScope` skips it by policy and counts it,
    the third element and the value behind the array load from the right place -/
example :
    run (initSt [.arr 3, .bin [1, 2, 3], .str [111], .bin [4, 5], .int 77] .skip)
        [.openArr, .openBin, .readByte, .readByte, .readByte, .isEnd, .close, .openBin, .openArr, .openBin, .readByte, .readByte, .close,
         .isEnd, .close, .next .int]
      = [.opened 3, .opened 3, .val (.byte 1), .val (.byte 2), .val (.byte 3), .flag true, .closed, .no, .no, .opened 2,
         .val (.byte 4), .val (.byte 5), .closed, .flag true, .closed, .val (.int 77)] := by decide

/-- the skipped elements may be containers: `[1,[2,[3]],{"k":4}]` left after one element, then `7` -/
example :
    run (initSt [.arr 3, .int 1, .arr 2, .int 2, .arr 1, .int 3, .map 1, .str [107], .int 4, .int 7] .skip)
        [.openArr, .next .int, .close, .next .int]
      = [.opened 3, .val (.int 1), .closed, .val (.int 7)] := by decide

/-- non-vacuity and the concrete scenario of the property text: `[1,"x",3]` then `7`, loaded as three ints
    with the Skip policy, gives 1, not-loaded, 3 and then 7 — the skipped string disturbs nobody -/
example :
    run (initSt [.arr 3, .int 1, .str [120], .int 3, .int 7] .skip) [.openArr, .next .int, .next .int, .next .int, .close, .next .int]
      = [.opened 3, .val (.int 1), .no, .val (.int 3), .closed, .val (.int 7)] := by decide

end BSVerif.Props.C05.Scope
