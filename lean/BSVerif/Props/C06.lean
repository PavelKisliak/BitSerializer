/-
  C06 — MsgPack output is spec-conformant, compact, and readable by any decoder (token level).

  Quantifiers: ALL values of every `WriteValue` overload / `BeginArray` / `BeginMap` / `BeginBinary`
  of the writer model (= CMsgPackStringWriter; CMsgPackStreamWriter writes the same bytes:
  Props/C10mp.stream_writer_equals_string_writer).

  `Conformant t bs` : an independent decoder (Spec.decodeToken, written from the specification)
     reads from `bs` — followed by anything — exactly the token `t` and consumes exactly `bs`;
     and NO format of the specification is able to hold `t` in fewer bytes (Spec.MostCompact).

  Findings:
   * signed integers in (INT_N max, UINT_N max] were written one class too large — REPAIRED
     (`fix: write signed integers …`); the theorems below are about the repaired code and would
     not hold for the old one (`write_i16_conformant` at v = 200).
   * timestamp 96 is written seconds-first: `WriteTimestampFull` is REFUTED (`write_ts_refuted`,
     witness (−1 s, 5 ns)), `write_ts_conformant_partial` holds for seconds in 0..2^34−1, and
     `write_ts96_shape` states exactly what is written otherwise.
-/
import BSVerif.MsgPack.WriterLemmas

namespace BSVerif.Props.C06
open BSVerif BSVerif.MsgPack BSVerif.MsgPack.Spec BSVerif.MsgPack.Model

/-- `bs` is the most compact spec-conformant encoding of exactly the token `t`. -/
def Conformant (t : Token) (bs : Bytes) : Prop :=
  (∀ r, ∃ f, decodeToken (bs ++ r) = some (t, f, r)) ∧ MostCompact t bs.length

/-- **NativeToBigEndian / PushValue.** The multi-byte fields are written in network byte order. -/
theorem pushBE_is_big_endian (k v : Nat) (hk : k = 1 ∨ k = 2 ∨ k = 4 ∨ k = 8) :
    pushBE k v = beBytes k v := pushBE_eq k v hk

/-- **Spec sanity.** The reference decoder inverts the reference encoder for every format and token
    (so `Conformant` / `ableToHold` are not vacuous). -/
theorem spec_decode_encode (f : Format) (t : Token) (bs : Bytes) (h : encodeAs f t = some bs) (r : Bytes) :
    decodeToken (bs ++ r) = some (t, f, r) := decode_encode f t bs h r

/-- A conformant encoding of a token without children is exactly one well-formed object. -/
theorem conformant_one_object (t : Token) (bs : Bytes) (h : Conformant t bs) (hc : t.children = 0) : OneObject bs := by
  obtain ⟨f, hf⟩ := h.1 []
  rw [List.append_nil] at hf
  unfold OneObject objects
  cases bs with
  | nil => simp [decodeToken] at hf
  | cons b t' => simp [objectsFuel, hf, hc]

/-- the encoding in some format that no other format beats is conformant (`decode_encode`) -/
theorem conformant_of_enc {t : Token} {f : Format} {bs : Bytes} (he : encodeAs f t = some bs)
    (hmin : MostCompact t bs.length) : Conformant t bs :=
  ⟨fun r => ⟨f, decode_encode f t bs he r⟩, hmin⟩

/-- no encoding is empty -/
theorem mostCompact_one (t : Token) : MostCompact t 1 := by
  intro f bs h
  have := decode_encode f t bs h []
  cases bs with
  | nil => simp [decodeToken] at this
  | cons b r => simp

theorem write_nil_conformant : Conformant .nil writeNil :=
  conformant_of_enc (f := .nil) rfl (mostCompact_one _)

theorem write_bool_conformant (b : Bool) : Conformant (.bool b) (writeBool b) := by
  cases b
  · exact conformant_of_enc (f := .false_) rfl (mostCompact_one _)
  · exact conformant_of_enc (f := .true_) rfl (mostCompact_one _)

theorem write_f32_conformant (bits : Nat) (h : bits < 2 ^ 32) : Conformant (.f32 bits) (writeF32 bits) := by
  refine conformant_of_enc (writeF32_enc bits h) fun f bs hb => ?_
  cases f <;> simp only [encodeAs, reduceCtorEq] at hb
  obtain ⟨_, rfl⟩ := Option.ite_some_none_eq_some.mp hb
  simp [writeF32, pushBE_length]

theorem write_f64_conformant (bits : Nat) (h : bits < 2 ^ 64) : Conformant (.f64 bits) (writeF64 bits) := by
  refine conformant_of_enc (writeF64_enc bits h) fun f bs hb => ?_
  cases f <;> simp only [encodeAs, reduceCtorEq] at hb
  obtain ⟨_, rfl⟩ := Option.ite_some_none_eq_some.mp hb
  simp [writeF64, pushBE_length]

theorem conformant_int {v : Int} {bs : Bytes} (h : WritesInt v bs) : Conformant (.int v) bs := by
  obtain ⟨f, he, hl⟩ := h
  exact conformant_of_enc he fun f' bs' hb => hl ▸ encodeAs_int_len f' v bs' hb

theorem write_u64_conformant (v : Nat) (h : v < 2 ^ 64) : Conformant (.int (Int.ofNat v)) (writeU64 v) :=
  conformant_int (writeU64_enc v (by simpa using h))

theorem write_u32_conformant (v : Nat) (h : v < 2 ^ 32) : Conformant (.int (Int.ofNat v)) (writeU32 v) :=
  conformant_int (writeU32_enc v (by simpa using h))

theorem write_u16_conformant (v : Nat) (h : v < 2 ^ 16) : Conformant (.int (Int.ofNat v)) (writeU16 v) :=
  conformant_int (writeU16_enc v (by simpa using h))

theorem write_u8_conformant (v : Nat) (h : v < 2 ^ 8) : Conformant (.int (Int.ofNat v)) (writeU8 v) :=
  conformant_int (writeU8_enc v (by simpa using h))

theorem write_i64_conformant (v : Int) (h0 : -(2 ^ 63) ≤ v) (h1 : v < 2 ^ 63) : Conformant (.int v) (writeI64 v) :=
  conformant_int (writeI64_enc v (by simpa using h0) (by simpa using h1))

theorem write_i32_conformant (v : Int) (h0 : -(2 ^ 31) ≤ v) (h1 : v < 2 ^ 31) : Conformant (.int v) (writeI32 v) :=
  conformant_int (writeI32_enc v (by simpa using h0) (by simpa using h1))

theorem write_i16_conformant (v : Int) (h0 : -(2 ^ 15) ≤ v) (h1 : v < 2 ^ 15) : Conformant (.int v) (writeI16 v) :=
  conformant_int (writeI16_enc v (by simpa using h0) (by simpa using h1))

theorem write_i8_conformant (v : Int) (h0 : -(2 ^ 7) ≤ v) (h1 : v < 2 ^ 7) : Conformant (.int v) (writeI8 v) :=
  conformant_int (writeI8_enc v (by simpa using h0) (by simpa using h1))

theorem write_str_conformant (d : Bytes) (h : d.length < 2 ^ 32) :
    ∃ bs, writeStr d = .ok bs ∧ Conformant (.str d) bs := by
  obtain ⟨bs, f, hw, he, hl⟩ := writeStr_enc d h
  exact ⟨bs, hw, conformant_of_enc he fun f' bs' hb => hl ▸ encodeAs_str_len f' d bs' hb⟩

theorem write_str_too_large (d : Bytes) (h : 2 ^ 32 ≤ d.length) : writeStr d = .error .outOfRange := by
  unfold writeStr
  simp only
  iterate 4 rw [if_neg (by omega)]

theorem begin_array_conformant (n : Nat) (h : n < 2 ^ 32) :
    ∃ bs, beginArray n = .ok bs ∧ Conformant (.array n) bs := by
  obtain ⟨bs, f, hw, he, hl⟩ := beginArray_enc n h
  exact ⟨bs, hw, conformant_of_enc he fun f' bs' hb => hl ▸ encodeAs_count_len f' n bs' (.inl hb)⟩

theorem begin_map_conformant (n : Nat) (h : n < 2 ^ 32) :
    ∃ bs, beginMap n = .ok bs ∧ Conformant (.map n) bs := by
  obtain ⟨bs, f, hw, he, hl⟩ := beginMap_enc n h
  exact ⟨bs, hw, conformant_of_enc he fun f' bs' hb => hl ▸ encodeAs_count_len f' n bs' (.inr hb)⟩

/-- `BeginBinary(n)` followed by the `n` bytes written through `WriteBinary` is the most compact bin token. -/
theorem begin_binary_conformant (d : Bytes) (h : d.length < 2 ^ 32) :
    ∃ hdr, beginBinary d.length = .ok hdr ∧ Conformant (.bin d) (hdr ++ d) := by
  obtain ⟨hdr, f, hw, he, hl⟩ := beginBinary_enc d h
  exact ⟨hdr, hw, conformant_of_enc he fun f' bs' hb => by
    rw [List.length_append, hl]; exact encodeAs_bin_len f' d bs' hb⟩

/-- counts that no MessagePack format can hold are refused with OutOfRange -/
theorem begin_too_large (n : Nat) (h : 2 ^ 32 ≤ n) :
    beginArray n = .error .outOfRange ∧ beginMap n = .error .outOfRange ∧ beginBinary n = .error .outOfRange := by
  unfold beginArray beginMap beginBinary
  refine ⟨?_, ?_, ?_⟩ <;> (iterate 3 rw [if_neg (by omega)])

/-- Spec sanity: the three layouts are decoded back to the instant they encode. -/
theorem timestamp_spec_roundtrip (s : Int) (ns : Nat) (hs0 : -(2 ^ 63) ≤ s) (hs1 : s < 2 ^ 63) (hn : ns ≤ nsMax) :
    decodeTimestamp (encodeTimestamp s ns) = some (s, ns) := by
  unfold encodeTimestamp
  simp only [nsMax] at hn
  split
  · rename_i h
    split
    · rename_i h2
      obtain ⟨rfl, h3⟩ := h2
      have hb : beNat (beBytes 4 s.toNat) = s.toNat := beNat_beBytes 4 _ (by simp at h3 ⊢; omega)
      simp [decodeTimestamp, timestamp32, hb, Int.toNat_of_nonneg h.1]
    · have hlt : ns * 2 ^ 34 + s.toNat < 256 ^ 8 := by have := h.2; simp at this ⊢; omega
      have hb := beNat_beBytes 8 _ hlt
      have h1 : (ns * 2 ^ 34 + s.toNat) / 2 ^ 34 = ns := by have := h.2; simp at this; omega
      have h2 : (ns * 2 ^ 34 + s.toNat) % 2 ^ 34 = s.toNat := by have := h.2; simp at this; omega
      simp only [decodeTimestamp, timestamp64, beBytes_length, hb, h1, h2]
      simp [nsMax, hn, Int.toNat_of_nonneg h.1]
  · have hb1 : beNat (beBytes 4 ns) = ns := beNat_beBytes 4 _ (by simp; omega)
    have hb2 : beNat (beBytes 8 (ofSigned 64 s)) = ofSigned 64 s := beNat_beBytes 8 _ (ofSigned_lt 64 s)
    have hts : toSigned 64 (ofSigned 64 s) = s := toSigned_ofSigned 64 (by decide) s ⟨by simpa using hs0, by simpa using hs1⟩
    have ht : (beBytes 4 ns ++ beBytes 8 (ofSigned 64 s)).take 4 = beBytes 4 ns := by
      rw [List.take_append_of_le_length (by simp)]; simp [List.take_of_length_le]
    have hd : (beBytes 4 ns ++ beBytes 8 (ofSigned 64 s)).drop 4 = beBytes 8 (ofSigned 64 s) := by
      rw [List.drop_append_of_le_length (by simp)]; simp [List.drop_of_length_le]
    simp [decodeTimestamp, timestamp96, ht, hd, hb1, hb2, hts, nsMax, hn]

/-- **C06 for timestamps, as the property states it.** -/
def WriteTimestampFull : Prop :=
  ∀ (s ns : Int), -(2 ^ 63) ≤ s → s < 2 ^ 63 → 0 ≤ ns → ns ≤ 999999999 →
    Conformant (.ext timestampType (encodeTimestamp s ns.toNat)) (writeTs s ns)

/-- The unchanged code violates it: −1 s + 5 ns is written seconds-first (witness replayed by corpus/C06). -/
theorem write_ts_refuted : ¬ WriteTimestampFull := by
  intro h
  obtain ⟨f, hf⟩ := (h (-1) 5 (by decide) (by decide) (by decide) (by decide)).1 []
  have he := (writeTs_large (-1) 5 (Or.inl (by decide)) (by decide) (by decide) (by decide) (by decide)).1
  rw [decode_encode _ _ _ he []] at hf
  have : beBytes 8 (ofSigned 64 (-1)) ++ beBytes 4 (Int.toNat 5) = encodeTimestamp (-1) (Int.toNat 5) := by
    simp only [Option.some.injEq, Prod.mk.injEq, Token.ext.injEq] at hf; exact hf.1.2
  revert this
  decide

/-- what the excluded inputs are: seconds outside 0 .. 2^34−1 (the timestamp 96 range) -/
def IsTimestamp96 (s : Int) : Prop := s < 0 ∨ 2 ^ 34 ≤ s
instance (s : Int) : Decidable (IsTimestamp96 s) := by unfold IsTimestamp96; exact inferInstance

/-- Outside the timestamp-96 range the writer emits exactly the spec's timestamp 32 / 64 layout, the
    smallest one able to hold the value, in the most compact ext format; a reference decoder
    recovers (s, ns). -/
theorem write_ts_conformant_partial (s ns : Int) (hs : ¬ IsTimestamp96 s) (hn0 : 0 ≤ ns) (hn1 : ns ≤ 999999999) :
    Conformant (.ext timestampType (encodeTimestamp s ns.toNat)) (writeTs s ns)
    ∧ decodeTimestamp (encodeTimestamp s ns.toNat) = some (s, ns.toNat) := by
  have hs0 : 0 ≤ s := by unfold IsTimestamp96 at hs; omega
  have hs1 : s < 17179869184 := by unfold IsTimestamp96 at hs; simp at hs; omega
  obtain ⟨f, he, hl⟩ := writeTs_small s ns hs0 hs1 hn0 hn1
  refine ⟨conformant_of_enc he fun f' bs hb => ?_, timestamp_spec_roundtrip s ns.toNat (by omega) (by omega) (by simp [nsMax]; omega)⟩
  have := encodeAs_ext_len f' _ _ bs hb
  have hx := hdrExt_spec (encodeTimestamp s ns.toNat).length
  have hlen : (encodeTimestamp s ns.toNat).length = 4 ∨ (encodeTimestamp s ns.toNat).length = 8 := by
    unfold encodeTimestamp
    rw [if_pos ⟨hs0, by simpa using hs1⟩]
    split <;> simp [timestamp32, timestamp64]
  rw [hl]; omega

/-- In the timestamp-96 range the writer emits one well-formed, most compact ext token of type −1
    with 12 payload bytes — but the payload is ⟨seconds:8⟩⟨nanoseconds:4⟩, the reverse of the
    specification's ⟨nanoseconds:4⟩⟨seconds:8⟩ (known finding `ts96-seconds-first-write`). -/
theorem write_ts96_shape (s ns : Int) (hs : IsTimestamp96 s) (hs0 : -(2 ^ 63) ≤ s) (hs1 : s < 2 ^ 63)
    (hn0 : 0 ≤ ns) (hn1 : ns ≤ 999999999) :
    Conformant (.ext timestampType (beBytes 8 (ofSigned 64 s) ++ beBytes 4 ns.toNat)) (writeTs s ns)
    ∧ encodeTimestamp s ns.toNat = beBytes 4 ns.toNat ++ beBytes 8 (ofSigned 64 s) := by
  have hs' : s < 0 ∨ 17179869184 ≤ s := by unfold IsTimestamp96 at hs; simpa using hs
  obtain ⟨he, hl⟩ := writeTs_large s ns hs' (by simpa using hs0) (by simpa using hs1) hn0 hn1
  refine ⟨conformant_of_enc he fun f bs hb => ?_, ?_⟩
  · have := encodeAs_ext_len f _ _ bs hb
    rw [hl]
    simp [hdrExt] at this; omega
  · unfold encodeTimestamp timestamp96
    rw [if_neg (by unfold IsTimestamp96 at hs; omega)]

example : Conformant (.int 200) (writeI16 200) := write_i16_conformant 200 (by decide) (by decide)
example : writeI16 200 = [0xCC, 0xC8] := by decide
example : writeTs 1 5 = [0xD7, 0xFF, 0, 0, 0, 0x14, 0, 0, 0, 1] := by decide
example : ¬ IsTimestamp96 1 ∧ IsTimestamp96 (-1) := by decide
example : writeStr [0x41, 0x42] = .ok [0xA2, 0x41, 0x42] := by rfl

end BSVerif.Props.C06
