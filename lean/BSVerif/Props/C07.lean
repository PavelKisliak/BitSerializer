/-
  C07 — MsgPack reader accepts every valid encoding and matches a reference decoder (token level).

  The model is CMsgPackStringReader (the repaired code: head of MsgPack/Reader.lean); the stream reader has a model of
  its own (MsgPack/StreamReader.lean), proved to give the same answers in Props/C10mp.lean.

  "Every well-formed encoding of a value" is made precise by the Spec's encoder: the encodings of a token
  `t` are exactly the byte strings `enc` with `Spec.encodeAs f t = some enc` for some format `f` that is
  able to hold `t` (any width, either integer family, either float width). The reader is run at an
  arbitrary position `pos` of an arbitrary byte string `bs` whose remaining input starts with `enc`
  (`bs.drop pos = enc ++ rest`): everything before and after the token is universally quantified.

    table_matches_spec          the GENERATED ByteCodeTable (256 rows) is the specification's format table
    conv_by_policy_is_range     cast / cast-back / sign test of Convert::To  ⟺  plain range membership
    read_int_any_format         10 integer formats x 10 integer targets: value if it fits, else policy outcome;
                                position behind the token either way
    read_bool_as_int, read_f32_*, read_f64_*, read_str_any_format, read_array_size_any_format,
    read_map_size_any_format, read_bin_size_any_format, read_nil, read_timestamp32, read_timestamp64_partial
    truncation_rejected         no strict prefix of any token encoding is a token (Spec) ...
    read_int_truncated          ... and ReadInteger answers a strict prefix with a parsing error
    (skip of truncated / ill-formed objects at any depth: Props/C05.reader_skip_rejects, reader_skip_truncated)

  Findings kept as refutations (recorded, not repaired): `ReadTimestamp64Full` (nanoseconds > 999999999
  accepted), `ReadTimestamp96Full` (seconds-first). Float 64 NaN/Inf into `float` was repaired: `float_narrow_full`.
-/
import BSVerif.MsgPack.ReadLemmas

namespace BSVerif.Props.C07
open BSVerif BSVerif.MsgPack BSVerif.MsgPack.Spec BSVerif.MsgPack.Model BSVerif.Generated

/-- Every one of the 256 entries of `ByteCodeTable` (as compiled into the current tree and regenerated
    by the translator) equals the row the specification prescribes: value family, embedded length,
    fixed body size, width of the length field. A mutated table entry breaks this theorem. -/
theorem table_matches_spec : ∀ b, b < 256 → Msgpack.byteCodeTable[b]? = some (specRow b) := table_rows

theorem table_size : Msgpack.byteCodeTable.length = 256 ∧ Msgpack.byteCodeTableSize = 256 := ⟨table_length, rfl⟩

/-- `Convert::Detail::To` for integers (static_cast, cast back, compare, sign test) accepts exactly the
    values of the target's range and delivers them unchanged — every wire type x every target. -/
theorem conv_by_policy_is_range (src tgt : IntTy) (hs : src ∈ srcTypes) (ht : tgt ∈ tgtTypes) (v : Int) (hv : src.holds v) :
    convInt src tgt v = if tgt.holds v then some v else none := convInt_spec src tgt hs ht v hv

/-- **read_any_format (integers).** Whatever legal format `f` the producer chose for the integer `v`
    (positive/negative fixint, uint 8..64, int 8..64), every integer target (bool, char, u8..u64, i8..i64)
    receives `v` when `v` is in its range; otherwise Overflow (ThrowError) or `false` (Skip). In all
    non-throwing cases exactly the token has been consumed. -/
theorem read_int_any_format (tgt : IntTy) (ht : tgt ∈ tgtTypes) (o : Opts) (f : Format) (v : Int) (enc : Bytes)
    (he : encodeAs f (.int v) = some enc) (bs : Bytes) (hb : BytesOk bs) (pos : Nat) (rest : Bytes)
    (hd : bs.drop pos = enc ++ rest) :
    readInteger tgt o bs pos =
      if tgt.holds v then .ok (some v, pos + enc.length)
      else if o.ovfThrow then .error .overflow else .ok (none, pos + enc.length) := by
  rw [← convertByPolicy_ite]
  cases f <;> simp only [encodeAs, reduceCtorEq] at he
  · obtain ⟨hc, rfl⟩ := Option.ite_some_none_eq_some.mp he
    obtain ⟨h1, -, -⟩ := drop_cons_facts hd
    have hh : tyI8.holds v := (holds_iff_sint tyI8 1 rfl rfl rfl v).mpr ⟨by simp; omega, by simp; omega⟩
    simp only [readInteger, h1]
    rw [if_pos (Or.inl (by omega)), Int.ofNat_eq_natCast, Int.toNat_of_nonneg hc.1, castTo_id tyI8 (by simp [srcTypes]) v hh,
      convInt_spec tyI8 tgt (by simp [srcTypes]) ht v hh]
    rfl
  iterate 4
    · obtain ⟨hc, rfl⟩ := encUInt_eq_some.mp he
      obtain ⟨h1, h2, -⟩ := drop_cons_facts hd
      simp only [readInteger, h1, List.length_cons, beBytes_length]
      exact readIntBody_uint tgt ht o _ (by simp [srcTypes]) _ (by simp [WidthOk]) rfl rfl bs hb pos v hc rest h2
  iterate 4
    · obtain ⟨hc, rfl⟩ := encSInt_eq_some.mp he
      obtain ⟨h1, h2, -⟩ := drop_cons_facts hd
      simp only [readInteger, h1, List.length_cons, beBytes_length]
      exact readIntBody_sint tgt ht o _ (by simp [srcTypes]) _ (by simp [WidthOk]) rfl rfl bs hb pos v hc rest h2
  · obtain ⟨hc, rfl⟩ := Option.ite_some_none_eq_some.mp he
    obtain ⟨h1, -, -⟩ := drop_cons_facts hd
    have hh : tyI8.holds v := (holds_iff_sint tyI8 1 rfl rfl rfl v).mpr ⟨by simp; omega, by simp; omega⟩
    have e : Int.ofNat (v + 256).toNat = v % Int.ofNat (2 ^ tyI8.bits) := by
      simp only [tyI8, Int.ofNat_eq_natCast]; omega
    have hcast : castTo tyI8 (Int.ofNat (v + 256).toNat) = v := by
      rw [e, castTo_emod, castTo_id tyI8 (by simp [srcTypes]) v hh]
    simp only [readInteger, h1]
    rw [if_pos (Or.inr (by omega)), hcast, convInt_spec tyI8 tgt (by simp [srcTypes]) ht v hh]
    rfl

/-- the library's documented compatibility: a boolean loads into every integer target as 0 / 1 -/
theorem read_bool_as_int (tgt : IntTy) (ht : tgt ∈ tgtTypes) (o : Opts) (b : Bool) (bs : Bytes) (pos : Nat) (rest : Bytes)
    (hd : bs.drop pos = (if b then 0xC3 else 0xC2) :: rest) :
    readInteger tgt o bs pos = .ok (some (if b then 1 else 0), pos + 1) := by
  obtain ⟨h1, -, -⟩ := drop_cons_facts hd
  have h0 : convInt tyI32 tgt 0 = some 0 := by
    rw [convInt_spec tyI32 tgt (by simp [srcTypes]) ht 0 (by decide), if_pos (tgtTypes_holds tgt ht).1]
  have h1' : convInt tyI32 tgt 1 = some 1 := by
    rw [convInt_spec tyI32 tgt (by simp [srcTypes]) ht 1 (by decide), if_pos (tgtTypes_holds tgt ht).2]
  cases b <;> simp [readInteger, h1, h0, h1', convertByPolicy]

/-- every strict prefix of an integer encoding is answered with a parsing error (never accepted) -/
theorem read_int_truncated (tgt : IntTy) (o : Opts) (f : Format) (v : Int) (enc : Bytes)
    (he : encodeAs f (.int v) = some enc) (n : Nat) (hn : n < enc.length)
    (bs : Bytes) (hb : BytesOk bs) (pos : Nat) (hd : bs.drop pos = enc.take n) :
    readInteger tgt o bs pos = .error .parsing := by
  cases n with
  | zero =>
    have : bs[pos]? = none := by rw [getElem?_eq_drop_head, hd]; rfl
    simp only [readInteger, this]
  | succ m =>
    cases f <;> simp only [encodeAs, reduceCtorEq] at he
    · obtain ⟨-, rfl⟩ := Option.ite_some_none_eq_some.mp he
      simp only [List.length_cons, List.length_nil] at hn; omega
    iterate 4
      · obtain ⟨-, rfl⟩ := encUInt_eq_some.mp he
        obtain ⟨h1, h2, -⟩ := drop_cons_facts hd
        simp only [List.length_cons, beBytes_length] at hn
        simp [readInteger, h1, readIntBody]
        rw [getValue_short _ (by simp [WidthOk]) bs hb (pos + 1) (by rw [h2, List.length_take, beBytes_length]; omega)]
    iterate 4
      · obtain ⟨-, rfl⟩ := encSInt_eq_some.mp he
        obtain ⟨h1, h2, -⟩ := drop_cons_facts hd
        simp only [List.length_cons, beBytes_length] at hn
        simp [readInteger, h1, readIntBody]
        rw [getValue_short _ (by simp [WidthOk]) bs hb (pos + 1) (by rw [h2, List.length_take, beBytes_length]; omega)]
    · obtain ⟨-, rfl⟩ := Option.ite_some_none_eq_some.mp he
      simp only [List.length_cons, List.length_nil] at hn; omega

theorem read_f32_from_float32 (o : Opts) (bits : Nat) (hbits : bits < 2 ^ 32) (bs : Bytes) (hb : BytesOk bs) (pos : Nat) (rest : Bytes)
    (hd : bs.drop pos = 0xCA :: beBytes 4 bits ++ rest) : readF32 o bs pos = .ok (some bits, pos + 5) := by
  obtain ⟨h1, h2, -⟩ := drop_cons_facts hd
  have g := getValue_on_be 4 (by simp [WidthOk]) bs hb (pos + 1) bits (by simpa using hbits) rest h2
  simp [readF32, h1, g]

theorem read_f64_from_float64 (o : Opts) (bits : Nat) (hbits : bits < 2 ^ 64) (bs : Bytes) (hb : BytesOk bs) (pos : Nat) (rest : Bytes)
    (hd : bs.drop pos = 0xCB :: beBytes 8 bits ++ rest) : readF64 o bs pos = .ok (some bits, pos + 9) := by
  obtain ⟨h1, h2, -⟩ := drop_cons_facts hd
  have g := getValue_on_be 8 (by simp [WidthOk]) bs hb (pos + 1) bits (by simpa using hbits) rest h2
  simp [readF64, h1, g]

/-- float 32 -> double: always delivered, exact widening (IEEE 754) -/
theorem read_f64_from_float32 (o : Opts) (bits : Nat) (hbits : bits < 2 ^ 32) (bs : Bytes) (hb : BytesOk bs) (pos : Nat) (rest : Bytes)
    (hd : bs.drop pos = 0xCA :: beBytes 4 bits ++ rest) : readF64 o bs pos = .ok (some (Ieee.f32ToF64 bits), pos + 5) := by
  obtain ⟨h1, h2, -⟩ := drop_cons_facts hd
  have g := getValue_on_be 4 (by simp [WidthOk]) bs hb (pos + 1) bits (by simpa using hbits) rest h2
  simp [readF64, h1, g]

/-- float 64 -> float: NaN, the infinities and finite values within ±FLT_MAX are converted (rounded to nearest-even);
    only a finite value beyond ±FLT_MAX takes the overflow policy; the token is consumed either way -/
theorem read_f32_from_float64 (o : Opts) (bits : Nat) (hbits : bits < 2 ^ 64) (bs : Bytes) (hb : BytesOk bs) (pos : Nat) (rest : Bytes)
    (hd : bs.drop pos = 0xCB :: beBytes 8 bits ++ rest) :
    readF32 o bs pos =
      if Ieee.toFloatOk bits then .ok (some (Ieee.f64ToF32 bits), pos + 9)
      else if o.ovfThrow then .error .overflow else .ok (none, pos + 9) := by
  obtain ⟨h1, h2, -⟩ := drop_cons_facts hd
  have g := getValue_on_be 8 (by simp [WidthOk]) bs hb (pos + 1) bits (by simpa using hbits) rest h2
  rw [← convertByPolicy_ite]
  simp [readF32, h1, g]

/-- C07 as stated: NaN and the infinities are values of the Float type and load into `float`
    (this was refuted by the quiet NaN before the repair of `Convert::Detail::To(double, float)`;
    the witness stays in corpus/C07 as a regression op). -/
theorem float_narrow_full (o : Opts) (bits : Nat) (hbits : bits < 2 ^ 64) (hnf : Ieee.isNaN64 bits = true ∨ Ieee.isInf64 bits = true) :
    readF32 o (0xCB :: beBytes 8 bits) 0 = .ok (some (Ieee.f64ToF32 bits), 9) := by
  have hb : BytesOk (0xCB :: beBytes 8 bits) := by
    intro x hx
    simp only [List.mem_cons] at hx
    rcases hx with rfl | hx
    · decide
    · exact beBytes_ok 8 bits x hx
  have := read_f32_from_float64 o bits hbits (0xCB :: beBytes 8 bits) hb 0 [] (by simp)
  rw [this]
  have : Ieee.toFloatOk bits = true := by
    unfold Ieee.toFloatOk
    rcases hnf with h | h <;> simp [h]
  simp [this]

-- non-vacuity: the quiet NaN and −∞
example : Ieee.isNaN64 0x7FF8000000000000 = true ∧ Ieee.isInf64 0xFFF0000000000000 = true := by decide

theorem read_nil (o : Opts) (bs : Bytes) (pos : Nat) (rest : Bytes) (hd : bs.drop pos = 0xC0 :: rest) :
    readNil o bs pos = .ok (some (), pos + 1) := by
  obtain ⟨h1, -, -⟩ := drop_cons_facts hd
  simp [readNil, h1]

theorem read_str_any_format (o : Opts) (f : Format) (d enc : Bytes) (he : encodeAs f (.str d) = some enc)
    (bs : Bytes) (hb : BytesOk bs) (pos : Nat) (rest : Bytes) (hd : bs.drop pos = enc ++ rest) :
    readStr o bs pos = .ok (some d, pos + enc.length) := by
  cases f <;> simp only [encodeAs, reduceCtorEq] at he
  · obtain ⟨hl, rfl⟩ := Option.ite_some_none_eq_some.mp he
    obtain ⟨h1, h2, h3⟩ := drop_cons_facts hd
    have e1 : (160 + d.length) / 32 = 5 := by omega
    have e2 : (160 + d.length) % 32 = d.length := by omega
    have e3 : pos + 1 + d.length ≤ bs.length := by simp at h3; omega
    simp only [readStr, h1, e1, e2, if_true, e3, h2]
    simp; omega
  iterate 3
    · obtain ⟨hl, rfl⟩ := encLenData_eq_some.mp he
      obtain ⟨h1, h2, -⟩ := drop_cons_facts hd
      simp only [List.append_eq, List.append_assoc] at h2
      have g := getValue_on_be _ (by simp [WidthOk]) bs hb (pos + 1) d.length hl _ h2
      obtain ⟨h4, h5⟩ := drop_after bs (pos + 1) _ _ h2
      simp only [beBytes_length, List.length_append] at h4 h5
      simp only [readStr, h1, g, h4, List.take_left]
      simp
      rw [if_pos (by omega)]
      congr 2; omega

theorem read_array_size_any_format (o : Opts) (f : Format) (n : Nat) (enc : Bytes) (he : encodeAs f (.array n) = some enc)
    (bs : Bytes) (hb : BytesOk bs) (pos : Nat) (rest : Bytes) (hd : bs.drop pos = enc ++ rest) :
    readArraySize o bs pos = .ok (some n, pos + enc.length) := by
  cases f <;> simp only [encodeAs, reduceCtorEq] at he
  · obtain ⟨hl, rfl⟩ := Option.ite_some_none_eq_some.mp he
    obtain ⟨h1, -, -⟩ := drop_cons_facts hd
    have e1 : (144 + n) / 16 = 9 := by omega
    have e2 : (144 + n) % 16 = n := by omega
    simp [readArraySize, readCount, h1, e1, e2]
  iterate 2
    · obtain ⟨hl, rfl⟩ := encCount_eq_some.mp he
      obtain ⟨h1, h2, -⟩ := drop_cons_facts hd
      have g := getValue_on_be _ (by simp [WidthOk]) bs hb (pos + 1) n hl _ h2
      simp [readArraySize, readCount, h1, g]

theorem read_map_size_any_format (o : Opts) (f : Format) (n : Nat) (enc : Bytes) (he : encodeAs f (.map n) = some enc)
    (bs : Bytes) (hb : BytesOk bs) (pos : Nat) (rest : Bytes) (hd : bs.drop pos = enc ++ rest) :
    readMapSize o bs pos = .ok (some n, pos + enc.length) := by
  cases f <;> simp only [encodeAs, reduceCtorEq] at he
  · obtain ⟨hl, rfl⟩ := Option.ite_some_none_eq_some.mp he
    obtain ⟨h1, -, -⟩ := drop_cons_facts hd
    have e1 : (128 + n) / 16 = 8 := by omega
    have e2 : (128 + n) % 16 = n := by omega
    simp [readMapSize, readCount, h1, e1, e2]
  iterate 2
    · obtain ⟨hl, rfl⟩ := encCount_eq_some.mp he
      obtain ⟨h1, h2, -⟩ := drop_cons_facts hd
      have g := getValue_on_be _ (by simp [WidthOk]) bs hb (pos + 1) n hl _ h2
      simp [readMapSize, readCount, h1, g]

/-- `ReadBinarySize` delivers the length and stops behind the header (the data is fetched by `ReadBinary`) -/
theorem read_bin_size_any_format (o : Opts) (f : Format) (d enc : Bytes) (he : encodeAs f (.bin d) = some enc)
    (bs : Bytes) (hb : BytesOk bs) (pos : Nat) (rest : Bytes) (hd : bs.drop pos = enc ++ rest) :
    readBinarySize o bs pos = .ok (some d.length, pos + (enc.length - d.length)) := by
  cases f <;> simp only [encodeAs, reduceCtorEq] at he
  iterate 3
    · obtain ⟨hl, rfl⟩ := encLenData_eq_some.mp he
      obtain ⟨h1, h2, -⟩ := drop_cons_facts hd
      simp only [List.append_eq, List.append_assoc] at h2
      have g := getValue_on_be _ (by simp [WidthOk]) bs hb (pos + 1) d.length hl _ h2
      simp [readBinarySize, h1, g]; omega

/-- **truncation_rejected.** For every format and token: no strict prefix of the encoding is a token
    of the specification (so a reference decoder rejects it). -/
theorem truncation_rejected (f : Format) (t : Token) (enc : Bytes) (he : encodeAs f t = some enc)
    (n : Nat) (hn : n < enc.length) : decodeToken (enc.take n) = none := by
  cases hd : decodeToken (enc.take n) with
  | none => rfl
  | some v =>
    -- a token in the prefix would also be the token of the whole encoding, which leaves nothing over
    obtain ⟨t', f', rest'⟩ := v
    have h1 := decodeToken_append _ (enc.drop n) t' f' rest' hd
    rw [List.take_append_drop, ← List.append_nil enc, decode_encode f t enc he []] at h1
    simp only [Option.some.injEq, Prod.mk.injEq] at h1
    have h3 := congrArg List.length h1.2.2
    simp only [List.length_nil, List.length_append, List.length_drop] at h3
    omega

/-- a token is decoded identically whatever follows it -/
theorem decode_independent_of_rest (bs x : Bytes) (t : Token) (f : Format) (rest : Bytes)
    (h : decodeToken bs = some (t, f, rest)) : decodeToken (bs ++ x) = some (t, f, rest ++ x) :=
  decodeToken_append bs x t f rest h

/-- timestamp 32 (fixext 4, type −1): the value the specification assigns -/
theorem read_timestamp32 (o : Opts) (d : Bytes) (hl : d.length = 4) (bs : Bytes) (hb : BytesOk bs) (pos : Nat) (rest : Bytes)
    (hd : bs.drop pos = 0xD6 :: 0xFF :: (d ++ rest)) :
    ∃ s ns, decodeTimestamp d = some (s, ns) ∧ readTs o bs pos = .ok (some (s, Int.ofNat ns), pos + 6) := by
  refine ⟨Int.ofNat (beNat d), 0, by simp [decodeTimestamp, hl], ?_⟩
  obtain ⟨h1, h2, h3⟩ := drop_cons_facts hd
  obtain ⟨h4, h5, h6⟩ := drop_cons_facts h2
  -- the fixext 4 row of the generated table: type, payload size, type byte, no length field
  have he : entry 0xD6 = ⟨Msgpack.vtExt, 4, 1, 0⟩ := rfl
  have g := getValue_on_bytes 4 (by simp [WidthOk]) bs hb (pos + 1 + 1) d rest hl h5
  simp [readTs, readExtFamilyType, h1, he, Msgpack.vtExt, show pos + 2 ≤ bs.length by omega]
  rw [show pos + 2 = pos + 1 + 1 from by omega, g]
  simp [h4]

/-- what `ReadValue(CBinTimestamp&)` delivers for a timestamp 64 -/
theorem read_timestamp64_shape (o : Opts) (d : Bytes) (hl : d.length = 8) (bs : Bytes) (hb : BytesOk bs) (pos : Nat) (rest : Bytes)
    (hd : bs.drop pos = 0xD7 :: 0xFF :: (d ++ rest)) :
    readTs o bs pos = .ok (some (Int.ofNat (beNat d % 2 ^ 34), Int.ofNat (beNat d / 2 ^ 34)), pos + 10) := by
  obtain ⟨h1, h2, h3⟩ := drop_cons_facts hd
  obtain ⟨h4, h5, h6⟩ := drop_cons_facts h2
  have he : entry 0xD7 = ⟨Msgpack.vtExt, 8, 1, 0⟩ := rfl
  have g := getValue_on_bytes 8 (by simp [WidthOk]) bs hb (pos + 1 + 1) d rest hl h5
  -- the 30-bit nanoseconds field is a value of `int32_t`
  have hlt : beNat d < 256 ^ 8 := by
    have := beNat_lt d fun b hbm => hb b (List.mem_of_mem_drop (h5 ▸ List.mem_append_left _ hbm))
    rwa [hl] at this
  have hc : castTo tyI32 (Int.ofNat (beNat d / 2 ^ 34)) = Int.ofNat (beNat d / 2 ^ 34) :=
    castTo_id tyI32 (by simp [srcTypes]) _ ((holds_iff_sint tyI32 4 rfl rfl rfl _).mpr ⟨by simp; omega, by simp; omega⟩)
  simp [readTs, readExtFamilyType, h1, he, Msgpack.vtExt, show pos + 2 ≤ bs.length by omega]
  rw [show pos + 2 = pos + 1 + 1 from by omega, g]
  simpa [h4] using hc

/-- C07 for timestamp 64 as stated: the reader agrees with the reference decoder, which REJECTS nanoseconds > 999999999 -/
def ReadTimestamp64Full : Prop :=
  ∀ (o : Opts) (d : Bytes), d.length = 8 → BytesOk d →
    match decodeTimestamp d with
    | some (s, ns) => readTs o (0xD7 :: 0xFF :: d) 0 = .ok (some (s, Int.ofNat ns), 10)
    | none => readTs o (0xD7 :: 0xFF :: d) 0 = .error .parsing

/-- refuted: nanoseconds field 2^30−1 is loaded verbatim (known finding `ts-nanoseconds-not-validated`) -/
theorem read_timestamp64_refuted : ¬ ReadTimestamp64Full := by
  intro h
  have h1 := h ⟨true, true⟩ [0xFF, 0xFF, 0xFF, 0xFF, 0, 0, 0, 1] rfl (by decide)
  have h2 := read_timestamp64_shape ⟨true, true⟩ [0xFF, 0xFF, 0xFF, 0xFF, 0, 0, 0, 1] rfl
    (0xD7 :: 0xFF :: [0xFF, 0xFF, 0xFF, 0xFF, 0, 0, 0, 1]) (by decide) 0 [] (by simp)
  have h3 : decodeTimestamp [0xFF, 0xFF, 0xFF, 0xFF, 0, 0, 0, 1] = none := by decide
  rw [h3] at h1
  simp only at h1
  rw [h2] at h1
  cases h1

/-- the excluded inputs: a nanoseconds field above 999999999 -/
def NsFieldValid (d : Bytes) : Prop := beNat d / 2 ^ 34 ≤ nsMax
instance (d : Bytes) : Decidable (NsFieldValid d) := by unfold NsFieldValid; exact inferInstance

/-- with a valid nanoseconds field the reader delivers exactly what the reference decoder reads -/
theorem read_timestamp64_partial (o : Opts) (d : Bytes) (hl : d.length = 8) (hv : NsFieldValid d) (bs : Bytes) (hb : BytesOk bs) (pos : Nat)
    (rest : Bytes) (hd : bs.drop pos = 0xD7 :: 0xFF :: (d ++ rest)) :
    ∃ s ns, decodeTimestamp d = some (s, ns) ∧ readTs o bs pos = .ok (some (s, Int.ofNat ns), pos + 10) := by
  refine ⟨Int.ofNat (beNat d % 2 ^ 34), beNat d / 2 ^ 34, ?_, read_timestamp64_shape o d hl bs hb pos rest hd⟩
  unfold NsFieldValid at hv
  simp [decodeTimestamp, hl, hv]

/-- what is delivered for a 12-byte timestamp payload in ext 8: ⟨seconds:int64⟩ then ⟨nanoseconds:int32⟩ -/
theorem read_timestamp96_shape (o : Opts) (d1 d2 : Bytes) (hl1 : d1.length = 8) (hl2 : d2.length = 4) (bs : Bytes) (hb : BytesOk bs)
    (pos : Nat) (rest : Bytes) (hd : bs.drop pos = 0xC7 :: 12 :: 0xFF :: (d1 ++ (d2 ++ rest))) :
    readTs o bs pos = .ok (some (castTo tyI64 (Int.ofNat (beNat d1)), castTo tyI32 (Int.ofNat (beNat d2))), pos + 15) := by
  obtain ⟨h1, h2, h3⟩ := drop_cons_facts hd
  obtain ⟨h4, h5, h6⟩ := drop_cons_facts h2
  obtain ⟨h7, h8, h9⟩ := drop_cons_facts h5
  -- the ext 8 row: the payload size is in a length field of one byte
  have he : entry 0xC7 = ⟨Msgpack.vtExt, 0, 1, 1⟩ := rfl
  have gs := getValue_on_bytes 1 (by simp [WidthOk]) bs hb (pos + 1) [12] _ rfl (by rw [h2]; rfl)
  have g1 := getValue_on_bytes 8 (by simp [WidthOk]) bs hb (pos + 1 + 1 + 1) d1 _ hl1 h8
  obtain ⟨h10, -⟩ := drop_after bs (pos + 1 + 1 + 1) d1 _ h8
  rw [hl1] at h10
  have g2 := getValue_on_bytes 4 (by simp [WidthOk]) bs hb (pos + 1 + 1 + 1 + 8) d2 _ hl2 h10
  have hty : bs[pos + 2]? = some 0xFF := h7
  rw [beNat_single] at gs
  simp [readTs, readExtFamilyType, readExtSize, h1, he, Msgpack.vtExt, show pos + 3 ≤ bs.length by omega, gs, hty, Except.map]
  rw [show pos + 3 = pos + 1 + 1 + 1 from by omega, g1]
  simp only
  rw [g2]

/-- C07 for timestamp 96 as stated (the specification: ⟨nanoseconds:uint32⟩⟨seconds:int64⟩) -/
def ReadTimestamp96Full : Prop :=
  ∀ (o : Opts) (d : Bytes), d.length = 12 → BytesOk d →
    ∀ s ns, decodeTimestamp d = some (s, ns) → readTs o (0xC7 :: 12 :: 0xFF :: d) 0 = .ok (some (s, Int.ofNat ns), 15)

/-- refuted: 5 ns before the epoch second −1, written by a conformant encoder (known finding `ts96-seconds-first-read`) -/
theorem read_timestamp96_refuted : ¬ ReadTimestamp96Full := by
  intro h
  have h1 := h ⟨true, true⟩ [0, 0, 0, 5, 0xFF, 0xFF, 0xFF, 0xFF, 0xFF, 0xFF, 0xFF, 0xFF] rfl (by decide) (-1) 5 (by decide)
  have h2 := read_timestamp96_shape ⟨true, true⟩ [0, 0, 0, 5, 0xFF, 0xFF, 0xFF, 0xFF] [0xFF, 0xFF, 0xFF, 0xFF] rfl rfl
    (0xC7 :: 12 :: 0xFF :: [0, 0, 0, 5, 0xFF, 0xFF, 0xFF, 0xFF, 0xFF, 0xFF, 0xFF, 0xFF]) (by decide) 0 [] (by simp)
  rw [h2] at h1
  simp only [Except.ok.injEq, Prod.mk.injEq, Option.some.injEq] at h1
  have := h1.1.1
  revert this
  decide

example : encodeAs .uint32 (.int 200) = some [0xCE, 0, 0, 0, 200] := by decide
example : tyI8.holds 127 ∧ ¬ tyI8.holds 200 ∧ tyBool.holds 1 ∧ ¬ tyBool.holds 2 := by decide
example : readInteger tyU8 ⟨true, true⟩ [0xD3, 0, 0, 0, 0, 0, 0, 0, 200] 0 = .ok (some 200, 9) := by rfl
example : readInteger tyI8 ⟨false, true⟩ [0xCC, 200, 0xC3] 0 = .ok (none, 2) := by rfl
example : NsFieldValid [0, 0, 0, 0x14, 0, 0, 0, 1] ∧ ¬ NsFieldValid [0xFF, 0xFF, 0xFF, 0xFF, 0, 0, 0, 1] := by decide

end BSVerif.Props.C07
