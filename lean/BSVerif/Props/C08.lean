/-
  C08 — JSON/XML output is standard-conformant; standard renderings load identically
  (+ the JSON/XML part of C01: save then load reproduces the value or the save fails;
   + the JSON positions of C04: numbers load exactly or are reported per policy).

  What is proved is the ADAPTER (rapidjson_archive.h / pugixml_archive.h as modelled in
  Adapter/JsonModel.lean, Adapter/XmlModel.lean). RapidJSON's and pugixml's printer / parser are a
  PARAMETER: `Codec` below, with the law `parse (print cfg d) = some d` on the domain JSON can carry
  (finite numbers, well-formed UTF-8) as an explicit HYPOTHESIS of the theorems (not an axiom). The law
  is exercised, not proved: every save op of the check is read back by the SPEC parsers
  (Adapter/JsonText.lean, Adapter/XmlText.lean) and by Python json / expat.

  Quantifiers: all values (`Val`: unbounded trees of typed scalars, arrays, objects, empty optionals),
  all map-free target types (`Schema`), all JSON DOMs whose objects have distinct names and whose integers
  RapidJSON can hold, both policies for both kinds of mismatch, every member order.
-/
import BSVerif.Adapter.Lemmas
import BSVerif.Adapter.XmlLemmas
import BSVerif.Generated.JsonxmlConsts

namespace BSVerif.Props.C08
open BSVerif.Adapter BSVerif.Adapter.JsonModel BSVerif.Adapter.Spec

/-- C08, first sentence, JSON. For every value, the DOM built by the Save scopes has exactly the value's names, nesting,
    member order, array order and scalar lexical values. -/
theorem dom_of_save (v : Val) : DomOf v (build v) := domOf_build v

/-- `SaveObject` either hands this DOM to the printer or raises: it raises exactly when the writer would reject the
    document (non-finite number; ill-formed UTF-8 when the output is a transcoding stream) — fix 9cda330.
    The equivalence "`save` succeeds ↔ the writer accepts" is stated as its two cases, each with the answer of `save`. -/
theorem save_ok_iff (transcode : Bool) (v : Val) :
    (save transcode v = .ok (build v) ∧ rejected transcode (build v) = false) ∨
    (save transcode v = .error .outOfRange ∧ rejected transcode (build v) = true) := by
  unfold save
  cases h : rejected transcode (build v) <;> simp [h]

/-- a non-finite double (here the first item of a root array) makes the save fail, whatever the output kind;
    before fix 9cda330 the text was silently truncated -/
theorem save_rejects_nonfinite (transcode : Bool) (b : Nat) (h : isFiniteBits b64 b = false) (items : List Val) :
    save transcode (.arr (.sc (.f64 b) :: items)) = .error .outOfRange := by
  simp [save, build, buildList, ofScalar, rejected, rejectedList, h]

/-- C08, second sentence, JSON; specification form. For every map-free target type and every DOM whose objects have distinct
    names, what the Load scopes deliver is exactly the specified result: objects are finite maps (lookup by name,
    independent of member order), arrays are sequences, every number loads exactly or goes to the overflow policy,
    every value of another kind goes to the mismatched-types policy, null leaves the target unset. -/
theorem load_of_dom (o : Opts) (s : Schema) (d : Json) (hs : noMap s = true) (hd : jsonOk d = true) :
    expectLoad o s (some d) = some (loadRoot o s d) :=
  load_meets_spec o s (some d) hs (fun _ h => by cases h; exact hd)

/-- **C04 at the JSON positions** (root, array element, member are all `loadValue`): for every integer target and
    every JSON integer, the loaded value is the same mathematical value or the overflow policy's answer. -/
theorem number_exact_or_policy (o : Opts) (ty : IntTy) (v : Int) (h : -(2 ^ 63 : Int) ≤ v ∧ v < (2 ^ 64 : Int)) :
    loadValue o (.int ty) (.int v) =
      if ty.inRange v then .ok (some (.int ty v))
      else if o.overflow = .throwError then .error .overflow else .ok none := by
  rw [loadValue_int o ty v h]; rfl

/-- all leaf targets and all JSON scalars at once -/
theorem leaf_load_meets_spec (o : Opts) (t : LeafTy) (j : Json) (hj : JsonIntRange j) :
    loadValue o t j = expectLeaf o t j := loadValue_eq_expectLeaf o t j hj

/-- **member order does not matter**: any permutation of the members of an object (with distinct names) loads to the
    same class value. One object is permuted; the objects nested in its members stay as they are. -/
theorem load_member_order_independent (o : Opts) (fs : List (Bool × Str × Schema)) (ms ms' : List (Str × Json))
    (hp : ms.Perm ms') (hnd : (ms.map Prod.fst).Nodup) :
    load o (.cls fs) (some (.obj ms')) = load o (.cls fs) (some (.obj ms)) := by
  simp only [load, loadFields_perm o fs hp hnd]

/-- **round trip at the DOM** (C01, JSON). Reading the DOM built for a value with the value's own type gives the value back
    (every integer width within its range, doubles bit for bit, floats whose widening survives, text byte for byte,
    empty optionals, nested arrays and classes with distinct keys). -/
theorem load_build_roundtrip (o : Opts) (s : Schema) (v : Val) (h : conforms s v = true) :
    loadRoot o s (build v) = .ok (expected s v) := load_build o s v h

/-- the third-party printer / parser pair -/
structure Codec where
  Text : Type
  Cfg : Type
  print : Cfg → Json → Text
  parse : Text → Option Json

/-- the codec law on the domain JSON can carry (hypothesis; RapidJSON Writer + Reader in full-precision mode) -/
def Codec.Lawful (c : Codec) : Prop := ∀ cfg d, rejected true d = false → c.parse (c.print cfg d) = some d

/-- `SaveObject` to text -/
def saveText (c : Codec) (cfg : c.Cfg) (transcode : Bool) (v : Val) : Except Err c.Text :=
  (save transcode v).map (c.print cfg)

/-- `LoadObject` from text -/
def loadText (c : Codec) (o : Opts) (s : Schema) (t : c.Text) : Except Err LVal :=
  match c.parse t with
  | none => .error .parsing
  | some d => loadRoot o s d

/-- **C01 for JSON.** Under the codec law, for every output configuration: saving a representable value either raises
    (exactly when it holds something JSON cannot carry) or produces a text that loads back to the value — never a
    document that loads to something else. The inner premise `rejected true (build v) = false` is the domain of the codec law:
    a save without transcoding lets ill-formed UTF-8 through, and of the text printed for such a DOM the law says nothing. -/
theorem save_then_load (c : Codec) (hc : c.Lawful) (cfg : c.Cfg) (transcode : Bool) (o : Opts) (s : Schema) (v : Val)
    (h : conforms s v = true) :
    (∃ t, saveText c cfg transcode v = .ok t ∧ (rejected true (build v) = false → loadText c o s t = .ok (expected s v))) ∨
    (saveText c cfg transcode v = .error .outOfRange ∧ rejected transcode (build v) = true) := by
  rcases save_ok_iff transcode v with ⟨hs, _⟩ | ⟨hs, hr⟩
  · left
    refine ⟨c.print cfg (build v), by simp [saveText, hs, Except.map], ?_⟩
    intro hdom
    simp [loadText, hc cfg (build v) hdom, load_build_roundtrip o s v h]
  · right
    exact ⟨by simp [saveText, hs, Except.map], hr⟩

/-- the integer handed to RapidJSON by the root scope after fix b807cd0: `SetInt64(value)` for signed, `SetUint64(value)`
    for unsigned types (implicit conversion to int64_t / uint64_t) -/
def rootInt (t : IntTy) (v : Int) : Int := if t.signed then IntTy.i64.wrap v else IntTy.u64.wrap v

/-- every C++ integer type survives the root scope -/
theorem root_int_exact (t : IntTy) (v : Int) (h : t.inRange v = true) : rootInt t v = v := by
  cases t <;> simp only [rootInt, IntTy.signed, if_true, Bool.false_eq_true, if_false] <;>
    exact IntTy.wrap_eq_self (IntTy.inRange_mono (by decide) (by decide) h)

/-- the choice of the unchanged code: `SetInt64` / `SetUint64` only for exactly int64_t / uint64_t, `SetInt(value)`
    (conversion to int) for everything else -/
def rootIntBeforeFix (t : IntTy) (v : Int) : Int :=
  if t = .i64 then v else if t = .u64 then v else IntTy.i32.wrap v

/-- the types the unchanged code saved exactly: those whose range lies within int (through `SetInt`), and int64_t / uint64_t
    themselves; for each of the other three (`u32`, `ll`, `ull`) a value that was altered follows below -/
theorem setInt_survivors (t : IntTy) (v : Int) (h : t.inRange v = true)
    (ht : t = .i8 ∨ t = .u8 ∨ t = .i16 ∨ t = .u16 ∨ t = .i32 ∨ t = .i64 ∨ t = .u64) : rootIntBeforeFix t v = v := by
  unfold rootIntBeforeFix
  rcases ht with rfl | rfl | rfl | rfl | rfl | rfl | rfl
  iterate 5 exact IntTy.wrap_eq_self (IntTy.inRange_mono (t := .i32) (by decide) (by decide) h)
  iterate 2 rfl

/-- full statement for the unchanged code -/
def RootIntExactBeforeFix : Prop := ∀ t v, t.inRange v = true → rootIntBeforeFix t v = v

/-- refuted: uint32 3000000000 was saved as -1294967296; long long 2^40 as 0; unsigned long long 2^64-1 as -1 -/
theorem rootIntBeforeFix_refuted : ¬ RootIntExactBeforeFix := by
  intro h
  have := h .u32 3000000000 (by decide)
  revert this
  decide

example : rootIntBeforeFix .u32 3000000000 = -1294967296 := by decide
example : rootIntBeforeFix .ll 1099511627776 = 0 := by decide
example : rootIntBeforeFix .ull 18446744073709551615 = -1 := by decide

/-- C08, first sentence, XML. For every value with finite numbers whose attribute fields are scalars with distinct names, the
    element the Save scopes build under `name` has exactly the value's names (`value` / `array` / `object` for array items),
    nesting, child order, attributes and scalar lexical values. `NumFmtOk` is the XML half of the codec law: the number
    formatting inside pugixml's `set_value(double/float)` reads back, by value, as the number that was set
    (hypothesis; checked on every `xml.save` op of the run with pugixml's actual text). -/
theorem xml_dom_of_save (fmt : XmlModel.NumFmt) (hf : NumFmtOk fmt) (name : Str) (v : Val) (hv : xmlValOk v = true) :
    XmlSpec.domMatches name v (XmlModel.buildNode fmt name v) = true := domMatches_build fmt hf name v hv

/-- the document element of `SaveObject`: default names `array` / `root`, or the explicit key -/
theorem xml_root_of_save (fmt : XmlModel.NumFmt) (hf : NumFmtOk fmt) (key : Option Str) (v : Val) (hv : xmlValOk v = true)
    (root : XNode) (h : XmlModel.buildRoot fmt key v = some root) :
    ∃ name, XmlSpec.domMatches name v root = true ∧
      (name = key.getD XmlModel.nameArray ∨ name = key.getD XmlModel.nameRoot) := by
  cases v with
  | arr items =>
    simp only [XmlModel.buildRoot, Option.some.injEq] at h
    subst h
    exact ⟨_, xml_dom_of_save fmt hf _ _ hv, Or.inl rfl⟩
  | obj fields =>
    simp only [XmlModel.buildRoot, Option.some.injEq] at h
    subst h
    exact ⟨_, xml_dom_of_save fmt hf _ _ hv, Or.inr rfl⟩
  | sc s => simp [XmlModel.buildRoot] at h
  | none => simp [XmlModel.buildRoot] at h

/-- the names the model gives to array items and default roots are the ones the real Save path produces
    (Generated/JsonxmlConsts.lean is dumped from a run of the current tree) -/
theorem xml_names_match_code :
    XmlModel.nameValue = Generated.Jsonxml.xml_item_value ∧ XmlModel.nameArray = Generated.Jsonxml.xml_item_array ∧
    XmlModel.nameObject = Generated.Jsonxml.xml_item_object ∧ XmlModel.nameArray = Generated.Jsonxml.xml_root_array ∧
    XmlModel.nameRoot = Generated.Jsonxml.xml_root_object := by decide

/-- `{"id": 3000000000, "tags": ["a", ""], "opt": null, "pos": {"x": -1.5}}` -/
def exampleSchema : Schema :=
  .cls [(false, [105, 100], .leaf (.int .u32)), (false, [116], .vec (.leaf .str)), (false, [111], .opt (.leaf (.int .i16))),
        (false, [112], .cls [(false, [120], .leaf .f64)])]

def exampleVal : Val :=
  .obj [(false, [105, 100], .sc (.int .u32 3000000000)), (false, [116], .arr [.sc (.str [97]), .sc (.str [])]), (false, [111], .none),
        (false, [112], .obj [(false, [120], .sc (.f64 0xBFF8000000000000))])]

example : conforms exampleSchema exampleVal = true := by
  simp [exampleSchema, exampleVal, conforms, conformsFields, conformsList, scalarOk, Scalar.ty, nullNone, IntTy.inRange, IntTy.min, IntTy.max, IntTy.bits, IntTy.signed]
example : noMap exampleSchema = true := by simp [exampleSchema, noMap, noMapFields]
example : jsonOk (build exampleVal) = true := by
  simp [exampleVal, build, buildFields, buildList, ofScalar, jsonOk, membersOk, jsonListOk]
example : rejected true (build exampleVal) = false := by
  simp [exampleVal, build, buildFields, buildList, ofScalar, rejected, rejectedMembers, rejectedList, isFiniteBits, b64, Fmt.signBit, Fmt.infBits]
  decide

/-- `<root id="7"><tags><value>a</value><value/></tags><opt/></root>` -/
def exampleXmlVal : Val :=
  .obj [(true, [105, 100], .sc (.int .u32 7)), (false, [116], .arr [.sc (.str [97]), .sc .null]), (false, [111], .none)]

example : xmlValOk exampleXmlVal = true := by
  simp [exampleXmlVal, xmlValOk, xmlFieldsOk, xmlListOk, scalarFinite]

/-- a lawful codec exists (the identity), so the hypothesis of `save_then_load` is satisfiable -/
example : (⟨Json, Unit, fun _ d => d, some⟩ : Codec).Lawful := fun _ _ _ => rfl

end BSVerif.Props.C08
