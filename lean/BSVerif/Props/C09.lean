/-
  C09 — CSV written and read per RFC 4180 for any field content and separator.

  Quantifiers: ALL tables (any number ≥ 1 of columns, any number of rows, arbitrary
  cell contents — separators, quotes, CR, LF, any code units), ALL allowed separators, ALL RFC 4180
  renderings (`Spec.Renders`: free quoting per field, CRLF or LF per line, optional final line break),
  ALL request scripts of one kind (by key in any order with repetitions and absent keys / by index).
-/
import BSVerif.Csv.SessionLemmas
import BSVerif.Csv.SpecComplete
import BSVerif.Csv.WriterLemmas
import BSVerif.Csv.ReaderLemmas
import BSVerif.Csv.Archive
import BSVerif.Generated.CsvConsts

namespace BSVerif.Props.C09
open BSVerif.Csv BSVerif.Csv.Spec BSVerif.Csv.Reader BSVerif.Csv.Oracle BSVerif.Csv.Abs

/-- every separator the library allows keeps the RFC 4180 grammar unambiguous -/
theorem allowed_sepOk : ∀ sep ∈ BSVerif.Generated.Csv.allowedSeparators, SepOk sep := by decide

/-- the separators the library allows are exactly the documented ones -/
theorem allowed_is_documented : BSVerif.Generated.Csv.allowedSeparators = Oracle.specSeparators := by decide

/-- the `WriteValue` calls for a table: every row paired with the header names -/
def kvRows (hdr : List Field) (rows : List (List Field)) : List (List Writer.KV) := rows.map (fun r => hdr.zip r)

/-- what `CCsvStringWriter` (header on) produces for a table -/
def modelSave (sep : Nat) (hdr : List Field) (rows : List (List Field)) : Except Err (List Nat) :=
  Writer.saveString sep true (kvRows hdr rows)

/-- a table: at least one column, every row as wide as the header -/
def WellFormed (hdr : List Field) (rows : List (List Field)) : Prop := hdr ≠ [] ∧ ∀ r ∈ rows, r.length = hdr.length

theorem zip_fst {hdr r : List Field} (h : r.length = hdr.length) : (hdr.zip r).map (·.1) = hdr := by
  apply List.map_fst_zip; omega
theorem zip_snd {hdr r : List Field} (h : r.length = hdr.length) : (hdr.zip r).map (·.2) = r := by
  apply List.map_snd_zip; omega

theorem WellFormed.ne_nil {hdr : List Field} {rows : List (List Field)} (hw : WellFormed hdr rows) : ∀ r ∈ hdr :: rows, r ≠ [] := by
  intro r hr h
  rcases List.mem_cons.mp hr with rfl | hr
  · exact hw.1 h
  · exact hw.1 (List.length_eq_zero_iff.mp ((hw.2 r hr).symm.trans (h ▸ rfl)))

theorem modelSave_eq (sep : Nat) (hdr : List Field) (first : List Field) (rest : List (List Field))
    (hw : WellFormed hdr (first :: rest)) : modelSave sep hdr (first :: rest) = .ok (render sep (hdr :: first :: rest)) := by
  have hlen := hw.2
  have hvals : ((first :: rest).map (fun r => hdr.zip r)).map (·.map (·.2)) = first :: rest := by
    rw [List.map_map]
    exact (List.map_congr_left fun r hr => zip_snd (hlen r hr)).trans (List.map_id _)
  have hwidth : ∀ r ∈ rest.map (fun r => hdr.zip r), r.length = (hdr.zip first).length := by
    intro r hr
    obtain ⟨r', hr', rfl⟩ := List.mem_map.mp hr
    rw [List.length_zip, List.length_zip, hlen r' (List.mem_cons_of_mem _ hr'), hlen first (List.mem_cons_self ..)]
  rw [List.map_cons] at hvals
  rw [modelSave, kvRows, List.map_cons, Writer.saveString_spec, if_pos hwidth, if_pos rfl, zip_fst (hlen first (List.mem_cons_self ..)),
    hvals, List.singleton_append]

/-- the text the writer produces is a rendering (in the sense of the Spec) of header + rows -/
theorem modelSave_renders (sep : Nat) (hdr : List Field) (first : List Field) (rest : List (List Field))
    (hw : WellFormed hdr (first :: rest)) :
    ∃ txt, modelSave sep hdr (first :: rest) = .ok txt ∧ Renders sep (hdr :: first :: rest) txt :=
  ⟨_, modelSave_eq sep hdr first rest hw, render_renders _ hw.ne_nil⟩

/-- **C09 (writer).** For every allowed separator and every table with arbitrary cell contents, the text
    produced by the writer is read by the strict RFC 4180 recogniser as exactly header + rows. -/
theorem write_parse (sep : Nat) (hsep : sep ∈ BSVerif.Generated.Csv.allowedSeparators)
    (hdr first : List Field) (rest : List (List Field)) (hw : WellFormed hdr (first :: rest)) :
    ∃ txt, modelSave sep hdr (first :: rest) = .ok txt ∧ Spec.parse sep txt = some (hdr :: first :: rest) :=
  ⟨_, modelSave_eq sep hdr first rest hw, parse_render (allowed_sepOk sep hsep) _ hw.ne_nil⟩

example : WellFormed [[97], [98]] [[[34, 44], [13]]] := by simp [WellFormed]
example : modelSave 44 [[97], [98]] [[[34, 44], [13]]] = .ok [97, 44, 98, 13, 10, 34, 34, 34, 44, 34, 44, 34, 13, 34, 13, 10] := by rfl

/-- **C09 (writer, width).** Rows of different width are refused. -/
theorem writer_rejects_ragged (sep : Nat) (wh : Bool) (first : List Writer.KV) (rest : List (List Writer.KV))
    (h : ∃ r ∈ rest, r.length ≠ first.length) : Writer.saveString sep wh (first :: rest) = .error .serOutOfRange :=
  (Writer.saveString_spec sep wh first rest).trans (if_neg fun hall => have ⟨r, hr, hne⟩ := h; hne (hall r hr))

/-- **C09 (reader, general form).** On every RFC-4180-conformant rendering of every table — any quoting
    choices, CRLF or LF, with or without final line break — the string reader's session delivers exactly
    what the Oracle derives from the table itself: cells by key (any order, repetitions, absent keys) or by
    index, a parsing error at the first record whose width differs, an error for a missing header line. -/
theorem reader_conforms (sep : Nat) (hs : SepOk sep) (wh : Bool) (script : List Req) (recs : Table) (txt : List Nat)
    (hr : Renders sep recs txt) (exp : Outcome) (he : expectOfRecs wh script recs = some exp) :
    memSession sep wh script txt = exp := by
  rw [memSession_eq_abs sep hs]
  exact absSession_expect (renders_lineStep hs) wh script recs txt hr exp he

/-- the rendering relation is exactly the set of texts the strict RFC 4180 recogniser accepts -/
theorem renders_iff_parse (sep : Nat) (hs : SepOk sep) (t : Table) (txt : List Nat) :
    Renders sep t txt ↔ Spec.parse sep txt = some t := ⟨parse_of_renders hs, renders_of_parse hs⟩

/-- **C09 (reader, all inputs).** Whenever the Oracle has a verdict for a text (i.e. the strict RFC 4180 recogniser
    accepts it and the script is of one kind), the string reader's session is exactly what the Oracle expects —
    for ALL texts, not only those produced by some writer. -/
theorem reader_satisfies_oracle (sep : Nat) (wh : Bool) (script : List Req) (txt : List Nat) (exp : Outcome)
    (he : expectRead sep wh script txt = some exp) : memSession sep wh script txt = exp := by
  unfold expectRead at he
  by_cases hs : SepOk sep
  · rw [if_neg (fun hn => hn hs)] at he
    cases hp : Spec.parse sep txt with
    | none => rw [hp] at he; cases he
    | some recs =>
      rw [hp] at he
      exact reader_conforms sep hs wh script recs txt (Spec.renders_of_parse hs hp) exp he
  · rw [if_pos hs] at he; cases he

/-- the cells a by-key script must deliver for a row -/
def rowByKey (hdr : List Field) (script : List Req) (row : List Field) : List Cell := script.map (reqCell (some hdr) row)

theorem expectRows_wellformed (hdr : List Field) (script : List Req) (hk : noIdx script = true) (rows : List (List Field))
    (hlen : ∀ r ∈ rows, r.length = hdr.length) :
    expectRows (some hdr) script hdr.length rows = .ok hdr (rows.map (rowByKey hdr script)) false 0 := by
  induction rows with
  | nil => rfl
  | cons r rs ih =>
    have h1 : ¬ (r.length ≠ hdr.length) := by have := hlen r (by simp); omega
    have h2 : ¬ (scriptKind script = .idxs ∧ script.length > hdr.length) := by
      rw [scriptKind_keys hk]; intro h; cases h.1
    simp only [expectRows, h1, h2, if_false, ih (fun r' hr' => hlen r' (by simp [hr'])), Outcome.addRow, List.map_cons,
      expectRow_keys hk, rowByKey]

/-- **C09 (reader, any rendering, any column order).** Every RFC 4180 rendering of a well-formed table with
    distinct column names loads to the same rows: for every row, every requested key — in any order, so for
    any order of the columns in the text — delivers the cell of that column; keys that are no column name
    are reported as not found. -/
theorem any_rendering (sep : Nat) (hsep : sep ∈ BSVerif.Generated.Csv.allowedSeparators)
    (hdr : List Field) (rows : List (List Field)) (hn : hdr.Nodup) (hlen : ∀ r ∈ rows, r.length = hdr.length)
    (txt : List Nat) (hr : Renders sep (hdr :: rows) txt) (script : List Req) (hk : noIdx script = true) :
    memSession sep true script txt = .ok hdr (rows.map (rowByKey hdr script)) false (rows.length - 1) := by
  apply reader_conforms sep (allowed_sepOk sep hsep) true script (hdr :: rows) txt hr
  rw [expectOfRecs_keys hk hn, expectRows_wellformed hdr script hk rows hlen]; rfl

example : Renders 44 [[[97], [98]], [[49], [34]]] [97, 44, 34, 98, 34, 10, 49, 44, 34, 34, 34, 34] := by
  have h1 : RecordR 44 [[97], [98]] ([97] ++ 44 :: [34, 98, 34]) :=
    RecordR.cons (FieldR.plain [97] (by decide)) (by simp) (RecordR.one (FieldR.quoted [98]))
  have h2 : RecordR 44 [[49], [34]] ([49] ++ 44 :: [34, 34, 34, 34]) :=
    RecordR.cons (FieldR.plain [49] (by decide)) (by simp) (RecordR.one (FieldR.quoted [34]))
  exact Renders.cons h1 EolR.lf (Renders.last h2 (by simp))

/-- **C09 (reader, width).** A record whose field count differs from the header is rejected with a parsing
    error, in every rendering. -/
theorem width_mismatch_rejected (sep : Nat) (hsep : sep ∈ BSVerif.Generated.Csv.allowedSeparators)
    (hdr : List Field) (rows : List (List Field)) (hn : hdr.Nodup) (hbad : ∃ r ∈ rows, r.length ≠ hdr.length)
    (txt : List Nat) (hr : Renders sep (hdr :: rows) txt) (script : List Req) (hk : noIdx script = true) :
    ∃ n, memSession sep true script txt = .err .parsing n := by
  obtain ⟨n, hn'⟩ := expectRows_bad (some hdr) script hk hdr.length rows hbad
  refine ⟨n, ?_⟩
  apply reader_conforms sep (allowed_sepOk sep hsep) true script (hdr :: rows) txt hr
  rw [expectOfRecs_keys hk hn, hn']; rfl

/-- **C09 (round trip).** Reading back what the writer wrote gives the rows — each cell by name, keys in
    any order — for arbitrary cell contents and every allowed separator. -/
theorem reader_reads_writer (sep : Nat) (hsep : sep ∈ BSVerif.Generated.Csv.allowedSeparators)
    (hdr first : List Field) (rest : List (List Field)) (hw : WellFormed hdr (first :: rest)) (hn : hdr.Nodup)
    (script : List Req) (hk : noIdx script = true) :
    ∃ txt, modelSave sep hdr (first :: rest) = .ok txt ∧
      memSession sep true script txt = .ok hdr ((first :: rest).map (rowByKey hdr script)) false rest.length := by
  obtain ⟨txt, h1, h2⟩ := modelSave_renders sep hdr first rest hw
  refine ⟨txt, h1, ?_⟩
  have := any_rendering sep hsep hdr (first :: rest) hn hw.2 txt h2 script hk
  simpa using this

theorem validateSeparator_ok {sep : Nat} (h : sep ∈ BSVerif.Generated.Csv.allowedSeparators) :
    Archive.validateSeparator sep = .ok () := if_pos h

theorem validateSeparator_error {sep : Nat} (h : sep ∉ BSVerif.Generated.Csv.allowedSeparators) :
    Archive.validateSeparator sep = .error .invalidOptions := if_neg h

/-- **C09 (archive round trip).** `SaveObject<CsvArchive>` of a non-empty array of objects with fields `keys`
    (distinct names, arbitrary string values) followed by `LoadObject<CsvArchive>` into objects with the same
    fields returns exactly the values, for every allowed separator. -/
theorem archive_roundtrip (sep : Nat) (hsep : sep ∈ BSVerif.Generated.Csv.allowedSeparators)
    (keys first : List Field) (rest : List (List Field)) (hw : WellFormed keys (first :: rest)) (hn : keys.Nodup) :
    ∃ txt, Archive.saveString sep (kvRows keys (first :: rest)) = .ok txt ∧
      Archive.loadString sep keys txt = .ok ((first :: rest).map (·.map .val)) := by
  have hnoidx : noIdx (keys.map Req.lit) = true := by simp [noIdx, isIdx]
  obtain ⟨txt, h1, h2⟩ := reader_reads_writer sep hsep keys first rest hw hn (keys.map Req.lit) hnoidx
  refine ⟨txt, ?_, ?_⟩
  · rw [Archive.saveString, validateSeparator_ok hsep]
    exact h1
  · simp only [Archive.loadString, validateSeparator_ok hsep, ok_bind, h2, Archive.ofOutcome]
    congr 1
    apply List.map_congr_left
    intro row hrow
    simp only [rowByKey, List.map_map]
    have : (reqCell (some keys) row ∘ Req.lit) = lookupCell (some keys) row := by funext k; rfl
    rw [this]
    exact lookup_self keys hn row (hw.2 row hrow)

/-- separators outside the allowed set are refused by the archive -/
theorem bad_separator_refused (sep : Nat) (h : sep ∉ BSVerif.Generated.Csv.allowedSeparators) (objs : List (List Writer.KV))
    (keys : List Field) (txt : List Nat) :
    Archive.saveString sep objs = .error .invalidOptions ∧ Archive.loadString sep keys txt = .error .invalidOptions := by
  rw [Archive.saveString, Archive.loadString, validateSeparator_error h]
  exact ⟨rfl, rfl⟩

/-! ### recorded finding `csv-empty-array-unloadable` -/

/-- an empty array is saved as the empty text (no header line) … -/
theorem save_empty (sep : Nat) (hsep : sep ∈ BSVerif.Generated.Csv.allowedSeparators) :
    Archive.saveString sep [] = .ok [] := by
  rw [Archive.saveString, validateSeparator_ok hsep]
  rfl

/-- … which `LoadObject` refuses: the full round-trip statement over tables with 0 rows does not hold -/
theorem load_empty_refused (sep : Nat) (hsep : sep ∈ BSVerif.Generated.Csv.allowedSeparators) (keys : List Field) :
    Archive.loadString sep keys [] = .error .parsing := by
  rw [Archive.loadString, validateSeparator_ok hsep]
  rfl

/-- the round trip of SaveObject + LoadObject over ALL arrays (including the empty one) -/
def ArchiveRoundTripAll : Prop :=
  ∀ sep ∈ BSVerif.Generated.Csv.allowedSeparators, ∀ (keys : List Field) (objs : List (List Field)),
    WellFormed keys objs → keys.Nodup →
    ∃ txt, Archive.saveString sep (kvRows keys objs) = .ok txt ∧ Archive.loadString sep keys txt = .ok (objs.map (·.map .val))

theorem archiveRoundTripAll_refuted : ¬ ArchiveRoundTripAll := by
  intro h
  obtain ⟨txt, h1, h2⟩ := h 44 (by decide) [[120]] [] (by simp [WellFormed]) (by simp)
  rw [show kvRows [[120]] [] = [] from rfl, save_empty 44 (by decide)] at h1
  injection h1 with h1
  subst h1
  rw [load_empty_refused 44 (by decide)] at h2
  cases h2

/-- the partial statement: the excluded inputs are exactly the empty arrays -/
theorem archiveRoundTrip_partial :
    ∀ sep ∈ BSVerif.Generated.Csv.allowedSeparators, ∀ (keys : List Field) (objs : List (List Field)),
      objs ≠ [] → WellFormed keys objs → keys.Nodup →
      ∃ txt, Archive.saveString sep (kvRows keys objs) = .ok txt ∧ Archive.loadString sep keys txt = .ok (objs.map (·.map .val)) := by
  intro sep hsep keys objs hne hw hn
  cases objs with
  | nil => exact absurd rfl hne
  | cons first rest => exact archive_roundtrip sep hsep keys first rest hw hn

end BSVerif.Props.C09
