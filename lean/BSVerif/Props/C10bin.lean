/-
  C10 — Memory and stream loading are equivalent wherever buffer boundaries fall.
  Part 1: the binary stream reader (namespace `BSVerif.Props.C10`; Props/C10.lean collects the three parts C10bin,
  C10csv, C10mp — C10mp builds on the theorems below).

  The core is a REFINEMENT: the sliding-cache stream reader `CBinaryStreamReader` behaves, for every
  cache size N > 0, every byte string and every history of operations, exactly like a plain cursor
  `(data, pos)` over the whole byte string — which is what the in-memory readers are. Each
  theorem below says: from any state satisfying the invariant `RInv`, the operation returns what
  the cursor returns, moves the abstract position as the cursor does, and re-establishes `RInv`.
  Because `N`, the data and the state are universally quantified, this covers every alignment of
  every value against the cache boundary. (`RInv`, `slice`, `Sim`: BinStream/Lemmas.lean; `Cursor`: BinStream/Model.lean.)
-/
import BSVerif.BinStream.Lemmas
import BSVerif.BinStream.Oracle

namespace BSVerif.Props.C10
open BSVerif.BinStream

/-- abstraction function: the cursor a reader state stands for -/
def abs (r : Reader) : Cursor := ⟨r.stream.data, r.getPosition⟩

/-- a state `k` bytes further on stands for the cursor advanced by `j`, when that is where `j` leads
    (`j = k`, or anything at the end of the data). This and `abs_eq` are about `abs` and so stand here; they are named
    into the namespace of `Sim` to be used as `hs.abs_advance`, `hs.abs_eq` beside `hs.inv` and `hs.N` -/
theorem _root_.BSVerif.BinStream.Sim.abs_advance {r r' : Reader} {k j : Nat} (hs : Sim r r' k)
    (h : min (r.getPosition + j) r.stream.data.length = r.getPosition + k) : abs r' = (abs r).advance j := by
  unfold C10.abs Cursor.advance
  rw [hs.pos, hs.data, ← h]

theorem _root_.BSVerif.BinStream.Sim.abs_eq {r r' : Reader} (hs : Sim r r' 0) : abs r' = abs r := by
  unfold C10.abs
  rw [hs.pos, hs.data]; rfl

/-- a reader with an empty cache at a position `q` inside the data: `ReadNextChunk` makes it a state for the cursor at `q` -/
theorem fresh_refines {N q : Nat} {st : Stream} (hN : 0 < N) (hq : q ≤ st.data.length) (hp : st.pos = q)
    (he : st.eof = true → q = st.data.length) (hf : st.fail = true → st.eof = true) :
    RInv (Reader.readNextChunk ⟨N, [], 0, q, st⟩).2 ∧ abs (Reader.readNextChunk ⟨N, [], 0, q, st⟩).2 = ⟨st.data, q⟩ ∧
    (Reader.readNextChunk ⟨N, [], 0, q, st⟩).2.N = N := by
  have h0 : RInv0 ⟨N, [], 0, q, st⟩ := ⟨hN, Nat.le_refl _, Nat.zero_le _, Nat.zero_le _, hq, by simp [slice], hp, he, hf⟩
  have hs := (readNextChunk_spec _ h0).1
  exact ⟨hs.inv, hs.abs_eq, hs.N⟩

/-- the constructor establishes the invariant at position 0 -/
theorem init_refines (N : Nat) (hN : 0 < N) (data : List Nat) :
    RInv (Reader.mk' N data) ∧ abs (Reader.mk' N data) = ⟨data, 0⟩ ∧ (Reader.mk' N data).N = N :=
  fresh_refines hN (Nat.zero_le _) rfl nofun nofun

theorem isEnd_refines (r : Reader) (h : RInv r) : r.isEnd = (abs r).isEnd := by
  have hb := h.base
  have hwl := win_length r
  have hle := win_le r hb
  have := hb.startLe; have := hb.posGe; have := hb.posLe
  unfold Reader.isEnd abs Cursor.isEnd
  by_cases hw : r.win = []
  · rw [hw] at hle
    have hp : r.getPosition = r.streamPos := by unfold Reader.getPosition; rw [hw]; rfl
    cases he : r.stream.eof with
    | false =>
      have : r.streamPos ≠ r.stream.data.length := fun hs => by
        have := h.endEof (by rw [hw] at hwl; simp at hwl; omega) hs
        rw [he] at this; cases this
      simp [hw, hp]; omega
    | true => simp [hw, hp, hb.eofEnd he]
  · have : 0 < r.win.length := List.length_pos_iff.mpr hw
    have hne : r.win.isEmpty = false := by simpa using hw
    simp [hne]; omega

theorem peekByte_refines (r : Reader) (h : RInv r) :
    r.peekByte.1 = (abs r).peekByte ∧ RInv r.peekByte.2 ∧ abs r.peekByte.2 = abs r ∧ r.peekByte.2.N = r.N := by
  unfold Reader.peekByte
  rcases ensure_cases r h with ⟨_, r1, he, hs, hw⟩ | ⟨hge, r1, he, hs⟩
  · rw [he]
    exact ⟨(win_head r1 hs.inv.base hw).trans (by rw [hs.pos, hs.data]; rfl), hs.inv, hs.abs_eq, hs.N⟩
  · rw [he]
    exact ⟨(List.getElem?_eq_none hge).symm, hs.inv, hs.abs_eq, hs.N⟩

theorem gotoNextByte_refines (r : Reader) (h : RInv r) :
    RInv r.gotoNextByte ∧ abs r.gotoNextByte = (abs r).advance 1 ∧ r.gotoNextByte.N = r.N := by
  have hle := getPosition_le r h.base
  unfold Reader.gotoNextByte
  rcases ensure_cases r h with ⟨hlt, r1, he, hs, hw⟩ | ⟨hge, r1, he, hs⟩
  · rw [he]
    have hk : 1 ≤ r1.win.length := List.length_pos_iff.mpr hw
    have h2 := hs.trans (.advance hs.inv.base hk (refill_sim _ (advance_spec r1 hs.inv.base 1 hk).1))
    exact ⟨h2.inv, h2.abs_advance (by omega), h2.N⟩
  · rw [he]
    exact ⟨hs.inv, hs.abs_advance (by omega), hs.N⟩

theorem readByte_eq (r : Reader) : r.readByte = (r.peekByte.1, r.gotoNextByte) := by
  unfold Reader.readByte Reader.peekByte Reader.gotoNextByte
  cases r.ensure with
  | mk ok r1 => cases ok <;> rfl

theorem readByte_refines (r : Reader) (h : RInv r) :
    r.readByte.1 = (abs r).peekByte ∧ RInv r.readByte.2 ∧ abs r.readByte.2 = (abs r).advance 1 ∧ r.readByte.2.N = r.N := by
  rw [readByte_eq]
  exact ⟨(peekByte_refines r h).1, gotoNextByte_refines r h⟩

/-- the refill of `ReadSolidBlock(k)`, `k ≤ N`: it succeeds exactly when `k` bytes are left, and then the window holds them -/
theorem solid_refill (r : Reader) (h : RInv r) (k : Nat) (hk : k ≤ r.N) :
    ∃ r1, (if r.win.length < k then
            ((r.readNextChunk.1 && !decide (r.readNextChunk.2.win.length < k)), r.readNextChunk.2)
          else (true, r)) = (decide (r.getPosition + k ≤ r.stream.data.length), r1) ∧
      Sim r r1 0 ∧ (r.getPosition + k ≤ r.stream.data.length → k ≤ r1.win.length) := by
  have hle := win_le r h.base
  by_cases hlt : r.win.length < k
  · obtain ⟨a1, a2, a3⟩ := readNextChunk_spec r h.base
    have hl := congrArg List.length a2
    rw [slice_length] at hl
    refine ⟨_, ?_, a1, fun _ => by omega⟩
    rw [if_pos hlt, a3]
    refine Prod.ext ?_ rfl
    by_cases hd : r.getPosition + k ≤ r.stream.data.length
    · simp only [decide_eq_true hd, Bool.and_eq_true, decide_eq_true_eq, Bool.not_eq_true', decide_eq_false_iff_not]; omega
    · simp only [decide_eq_false hd, Bool.and_eq_false_iff, decide_eq_false_iff_not, Bool.not_eq_false', decide_eq_true_eq]; omega
  · exact ⟨r, by rw [if_neg hlt, decide_eq_true (by omega)], .refl h, fun _ => by omega⟩

/-- `ReadSolidBlock(k)`: a contiguous block of at most N bytes, or nothing (and no movement) when
    fewer than `k` bytes remain or `k` exceeds the cache size -/
theorem readSolidBlock_refines (r : Reader) (h : RInv r) (k : Nat) :
    (r.readSolidBlock k).1 = (if k ≤ r.N then (abs r).block k else none) ∧
    RInv (r.readSolidBlock k).2 ∧ (r.readSolidBlock k).2.N = r.N ∧
    abs (r.readSolidBlock k).2 = (if (r.readSolidBlock k).1.isSome then (abs r).advance k else abs r) := by
  unfold Reader.readSolidBlock
  by_cases hkN : k > r.N
  · have : ¬ k ≤ r.N := by omega
    simp [hkN, this, h]
  · have hkN' : k ≤ r.N := by omega
    obtain ⟨r1, hr, hs, hkw⟩ := solid_refill r h k hkN'
    simp only [hkN, if_false, hkN', if_true, hr]
    by_cases hd : r.getPosition + k ≤ r.stream.data.length
    · have h2 := hs.trans (.advance hs.inv.base (hkw hd) (peek_sim _ (advance_spec r1 hs.inv.base k (hkw hd)).1))
      simp only [decide_eq_true hd, Bool.not_true, Bool.false_eq_true, if_false, Option.isSome_some, if_true]
      refine ⟨?_, h2.inv, h2.N, h2.abs_advance (by omega)⟩
      rw [take_win r1 hs.inv.base k (hkw hd), hs.pos, hs.data]
      simp [abs, Cursor.block, hd, slice]
    · simp only [decide_eq_false hd, Bool.not_false, if_true, Option.isSome_none, Bool.false_eq_true, if_false]
      exact ⟨by simp [abs, Cursor.block, hd], hs.inv, hs.N, hs.abs_eq⟩

/-- `ReadByChunks(remaining)`: at the end nothing; otherwise a non-empty (when `remaining > 0`) prefix of
    the rest of the byte string, not longer than `remaining`, and the cursor moves behind it -/
theorem readByChunks_refines (r : Reader) (h : RInv r) (rem : Nat) :
    RInv (r.readByChunks rem).2 ∧ (r.readByChunks rem).2.N = r.N ∧
    (match (r.readByChunks rem).1 with
     | none => (abs r).isEnd = true ∧ abs (r.readByChunks rem).2 = abs r
     | some b => (abs r).isEnd = false ∧ b = slice r.stream.data r.getPosition b.length ∧ b.length ≤ rem ∧
                 (0 < rem → 0 < b.length) ∧ abs (r.readByChunks rem).2 = (abs r).advance b.length) := by
  unfold Reader.readByChunks
  rcases ensure_cases r h with ⟨hlt, r1, he, hs, hw⟩ | ⟨hge, r1, he, hs⟩
  · rw [he]
    have hl : 0 < r1.win.length := List.length_pos_iff.mpr hw
    have hk : min r1.win.length rem ≤ r1.win.length := Nat.min_le_left _ _
    have hle := win_le r1 hs.inv.base
    rw [hs.pos, hs.data] at hle
    have h2 := hs.trans (.advance hs.inv.base hk (peek_sim _ (advance_spec r1 hs.inv.base _ hk).1))
    have hlen : (List.take (min r1.win.length rem) r1.win).length = min r1.win.length rem := by
      simp [List.length_take]
    refine ⟨h2.inv, h2.N, ?_, ?_, ?_, ?_, ?_⟩
    · simp [abs, Cursor.isEnd]; omega
    · rw [hlen, take_win r1 hs.inv.base _ hk, hs.pos, hs.data]; rfl
    · rw [hlen]; exact Nat.min_le_right _ _
    · intro hr; rw [hlen]; omega
    · rw [hlen]; exact h2.abs_advance (by omega)
  · rw [he]
    exact ⟨hs.inv, hs.N, by simp [abs, Cursor.isEnd]; omega, hs.abs_eq⟩

/-- `SetPosition(q)` for a position inside the byte string: always succeeds — whether `q` lies in the
    cached chunk, ahead of it, or BEHIND it after the end of the stream was reached — and moves the
    cursor exactly to `q`. Beyond the end it fails. -/
theorem setPosition_refines (r : Reader) (h : RInv r) (q : Nat) :
    (r.setPosition q).1 = decide (q ≤ r.stream.data.length) ∧
    (q ≤ r.stream.data.length →
      RInv (r.setPosition q).2 ∧ abs (r.setPosition q).2 = ⟨r.stream.data, q⟩ ∧ (r.setPosition q).2.N = r.N) := by
  have hb := h.base
  have hsl := hb.startLe; have hpg := hb.posGe; have hpl := hb.posLe; have hbl := hb.bufLe
  unfold Reader.setPosition
  by_cases hin : q + r.buf.length ≥ r.streamPos ∧ q < r.streamPos
  · simp only [hin, and_self, if_true]
    -- `q` lies in the cached chunk: only `mStartDataPtr` moves, and the window is not empty afterwards
    refine ⟨by simp; omega, fun _ => ⟨{ base := hb.setStart (by omega), endEof := ?_ }, ?_, trivial⟩⟩
    · intro hs; simp only at hs; omega
    · unfold abs Reader.getPosition
      simp only [win_length]
      congr 1; omega
  · simp only [hin, if_false]
    by_cases hq : q = r.streamPos
    · subst hq
      simp only [ne_eq, not_true_eq_false, if_false, if_true, true_or]
      exact ⟨by simp; omega, fun _ => fresh_refines hb.nPos hb.posLe hb.spos hb.eofEnd hb.failEof⟩
    · simp only [ne_eq, hq, not_false_eq_true, if_true, if_false, false_or]
      by_cases hle : q ≤ r.stream.data.length
      · have hs : (r.stream.clear.seekg q) = ⟨r.stream.data, q, false, false⟩ := by
          unfold Stream.clear Stream.seekg
          have : ¬ q > r.stream.data.length := by omega
          simp [this]
        rw [hs]
        simp only [Bool.not_false, if_true]
        exact ⟨by simp [hle], fun _ => fresh_refines hb.nPos hle rfl nofun nofun⟩
      · have hs : (r.stream.clear.seekg q).fail = true := by
          unfold Stream.clear Stream.seekg
          have : q > r.stream.data.length := by omega
          simp [this]
        simp only [hs, Bool.not_true, Bool.false_eq_true, if_false]
        exact ⟨by simp [hle], fun hc => absurd hc hle⟩

open BSVerif.BinStream.Oracle in
/-- **C10 core, every operation history**: from any state satisfying the invariant (the constructor's, for any N > 0 and
    any byte string, is one: `init_refines`), after ANY sequence of operations whose `SetPosition` targets lie inside the
    byte string, the reader still satisfies the invariant, over the SAME byte string and with the same cache size. The
    statement is this preservation and nothing more; that the answers along the history are the cursor's follows by
    applying the operation's own `*_refines` theorem at each state, which the preserved invariant permits. -/
theorem history_refines (ops : List Op) :
    ∀ (r : Reader), RInv r → (∀ p, Op.set p ∈ ops → p ≤ r.stream.data.length) →
    RInv (ops.foldl (fun r op => (stepModel r op).2) r) ∧
    (ops.foldl (fun r op => (stepModel r op).2) r).stream.data = r.stream.data ∧
    (ops.foldl (fun r op => (stepModel r op).2) r).N = r.N := by
  induction ops with
  | nil => intro r h _; exact ⟨h, rfl, rfl⟩
  | cons op ops ih =>
    intro r h hset
    simp only [List.foldl_cons]
    have step : RInv (stepModel r op).2 ∧ (stepModel r op).2.stream.data = r.stream.data ∧ (stepModel r op).2.N = r.N := by
      cases op with
      | peek => obtain ⟨_, a, b, c⟩ := peekByte_refines r h; exact ⟨a, congrArg Cursor.data b, c⟩
      | next => obtain ⟨a, b, c⟩ := gotoNextByte_refines r h; exact ⟨a, congrArg Cursor.data b, c⟩
      | rb => obtain ⟨_, a, b, c⟩ := readByte_refines r h; exact ⟨a, congrArg Cursor.data b, c⟩
      | solid k =>
        obtain ⟨_, a, c, b⟩ := readSolidBlock_refines r h k
        exact ⟨a, (congrArg Cursor.data b).trans (by split <;> rfl), c⟩
      | chunks k =>
        obtain ⟨a, c, b⟩ := readByChunks_refines r h k
        refine ⟨a, ?_, c⟩
        split at b
        · exact congrArg Cursor.data b.2
        · exact congrArg Cursor.data b.2.2.2.2
      | set p =>
        obtain ⟨a, b, c⟩ := (setPosition_refines r h p).2 (hset p (by simp))
        exact ⟨a, congrArg Cursor.data b, c⟩
      | pos | isEnd | failed => exact ⟨h, rfl, rfl⟩
    obtain ⟨s1, s2, s3⟩ := step
    obtain ⟨i1, i2, i3⟩ := ih _ s1 (fun p hp => by rw [s2]; exact hset p (by simp [hp]))
    exact ⟨i1, by rw [i2, s2], by rw [i3, s3]⟩

/-! non-vacuity: the constructor state over a byte string longer than the cache satisfies the invariant; two blocks read
from it, the second across the chunk boundary -/

example : RInv (Reader.mk' 4 [1, 2, 3, 4, 5, 6, 7]) := (init_refines 4 (by decide) _).1
example : ((Reader.mk' 4 [1, 2, 3, 4, 5, 6, 7]).readSolidBlock 3).1 = some [1, 2, 3] := by decide
example : (((Reader.mk' 4 [1, 2, 3, 4, 5, 6, 7]).readSolidBlock 3).2.readSolidBlock 3).1 = some [4, 5, 6] := by decide

end BSVerif.Props.C10
