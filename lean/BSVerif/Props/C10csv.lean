/-
  C10 (CSV half) — loading from memory and from a stream give the same outcome wherever values,
  quoted fields, line breaks or multi-byte characters fall relative to the reader's buffer
  boundaries; stream output in UTF-8 without BOM equals memory output.

  Quantifiers: ALL texts (conformant or not, any length), ALL chunk sizes ≥ 1
  (hence every alignment of every character with the chunk boundaries), ALL request scripts
  (by key / by index / mixed, repeated reads of the same cell included); for the writers ALL lists of
  rows, a row being the `WriteValue` calls up to its `NextLine`, written until the first error.

  Model assumptions (see Csv/StreamReader.lean): the stream is UTF-8 without BOM (decoded text =
  bytes), `std::istream::read` delivers min(n, remaining) bytes and sets eofbit iff fewer arrived.
-/
import BSVerif.Csv.StreamSim
import BSVerif.Csv.WriterLemmas
import BSVerif.Csv.Archive
import BSVerif.Props.C09
import BSVerif.Generated.UtfConsts

namespace BSVerif.Props.C10.Csv
open BSVerif.Csv BSVerif.Csv.Spec BSVerif.Csv.Reader BSVerif.Csv.Stream BSVerif.Csv.Abs BSVerif.Csv.Oracle

/-- **C10 (CSV reader).** For every chunk size, every separator that keeps the grammar unambiguous, every
    text and every request script, the stream reader's session has exactly the outcome of the string
    reader's session: the same headers, the same cells (also when a cell is read more than once), the same
    error class after the same number of rows. -/
theorem stream_reader_refines_memory (chunk : Nat) (hc : 1 ≤ chunk) (sep : Nat) (hs : SepOk sep) (wh : Bool)
    (script : List Req) (txt : List Nat) :
    streamSession chunk sep wh script txt = memSession sep wh script txt := by
  rw [streamSession_eq_abs chunk hc sep hs, memSession_eq_abs sep hs]

example : SepOk 44 ∧ 1 ≤ (256 : Nat) := by decide

/-- … in particular for the compiled-in chunk size and every allowed separator -/
theorem stream_reader_refines_memory_default (sep : Nat) (hsep : sep ∈ BSVerif.Generated.Csv.allowedSeparators) (wh : Bool)
    (script : List Req) (txt : List Nat) :
    streamSession BSVerif.Generated.Utf.encodedStreamReaderDefaultChunk sep wh script txt = memSession sep wh script txt :=
  stream_reader_refines_memory _ (by decide) sep (C09.allowed_sepOk sep hsep) wh script txt

theorem chunking_irrelevant (c1 c2 : Nat) (h1 : 1 ≤ c1) (h2 : 1 ≤ c2) (sep : Nat) (hs : SepOk sep) (wh : Bool)
    (script : List Req) (txt : List Nat) :
    streamSession c1 sep wh script txt = streamSession c2 sep wh script txt := by
  rw [stream_reader_refines_memory c1 h1 sep hs, stream_reader_refines_memory c2 h2 sep hs]

/-- hence the stream reader, too, delivers on every RFC 4180 rendering of a table what the Oracle expects (C09) -/
theorem stream_reader_conforms (chunk : Nat) (hc : 1 ≤ chunk) (sep : Nat) (hs : SepOk sep) (wh : Bool) (script : List Req)
    (recs : Table) (txt : List Nat) (hr : Renders sep recs txt) (exp : Outcome) (he : expectOfRecs wh script recs = some exp) :
    streamSession chunk sep wh script txt = exp := by
  rw [stream_reader_refines_memory chunk hc sep hs]
  exact C09.reader_conforms sep hs wh script recs txt hr exp he

/-- … and satisfies the Oracle on every text for which the Oracle has a verdict -/
theorem stream_reader_satisfies_oracle (chunk : Nat) (hc : 1 ≤ chunk) (sep : Nat) (wh : Bool) (script : List Req) (txt : List Nat)
    (exp : Outcome) (he : expectRead sep wh script txt = some exp) : streamSession chunk sep wh script txt = exp := by
  have hs : SepOk sep := by
    apply Classical.byContradiction; intro hn
    unfold expectRead at he; rw [if_pos hn] at he; cases he
  rw [stream_reader_refines_memory chunk hc sep hs]
  exact C09.reader_satisfies_oracle sep wh script txt exp he

/-- **C10 (archive, load).** `LoadObject<CsvArchive>` from a stream and from a string agree on every text. -/
theorem load_stream_eq_load_string (chunk : Nat) (hc : 1 ≤ chunk) (sep : Nat) (keys : List (List Nat)) (txt : List Nat) :
    Archive.loadStream chunk sep keys txt = Archive.loadString sep keys txt := by
  unfold Archive.loadStream Archive.loadString
  by_cases hsep : sep ∈ BSVerif.Generated.Csv.allowedSeparators
  · rw [stream_reader_refines_memory chunk hc sep (C09.allowed_sepOk sep hsep)]
  · rw [Archive.validateSeparator, if_neg hsep]; rfl

/-- **C10 (CSV writer).** For every list of rows (of any widths, header on or off), each written by its
    `WriteValue` calls and one `NextLine`, up to the first error, the stream writer (UTF-8, no BOM) produces
    exactly the bytes of the string writer, or fails with the same error. -/
theorem stream_writer_equals_string_writer (sep : Nat) (wh : Bool) (rows : List (List Writer.KV)) :
    Writer.saveStream sep wh rows = Writer.saveString sep wh rows :=
  Writer.saveStream_eq_saveString sep wh rows

/-- **C10 (archive, save).** `SaveObject<CsvArchive>` to a stream (UTF-8, no BOM) yields exactly the bytes of
    saving to a string. -/
theorem save_stream_eq_save_string (sep : Nat) (objs : List (List Writer.KV)) :
    Archive.saveStream sep objs = Archive.saveString sep objs := by
  unfold Archive.saveStream Archive.saveString
  rw [stream_writer_equals_string_writer]

/-- the line scanner of the stream reader refines the abstract line scanner for every chunking (line level) -/
theorem stream_line_refines (sep : Nat) (hs : SepOk sep) (e : Enc) (buf : List Nat) (hok : EncOk e) :
    ScanSpec sep e buf 0 0 0 none [] (buf ++ e.logical) (scanLineS sep e buf 0 0 0 none) :=
  scanLineS_abs sep hs e buf 0 0 0 none [] [] buf hok (by simp) rfl rfl (fun p hp => by cases hp)

end BSVerif.Props.C10.Csv
