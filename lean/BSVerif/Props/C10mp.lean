/-
  C10 (MsgPack reader part) — loading from a stream equals loading from memory wherever values fall relative to the
  reader's cache: the SECOND copy of the MsgPack reader (`CMsgPackStreamReader` over `CBinaryStreamReader`,
  model: MsgPack/StreamReader.lean) returns, for every entry point, every byte string, every start position and
  every option setting, the same outcome (value / returned false / error class) and the same new position as the
  first copy (`CMsgPackStringReader`, model: MsgPack/Reader.lean) — for every chunk size N ≥ 8 of the cache.

  The writers: the second copy of the writer (`CMsgPackStreamWriter`, model: MsgPack/StreamWriter.lean) puts into the
  stream exactly the bytes the first copy (`CMsgPackStringWriter`, MsgPack/Writer.lean) appends to the string.
-/
import BSVerif.MsgPack.StreamSim
import BSVerif.MsgPack.StreamWriter

namespace BSVerif.Props.C10mp
open BSVerif BSVerif.Generated BSVerif.BinStream BSVerif.MsgPack
open BSVerif.MsgPack.Model (Opts Err IntTy tyU64 tyU16)
open BSVerif.MsgPack.StreamModel (Prog Call Ans runA run lift liftU readerSrc callProg callString histStream histString
  stringReadBinary stringSetPos Agree Rel)
open BSVerif.Props.C10 (abs)
open BSVerif.MsgPack.StreamWriterModel (OStream)

/-! The stream-reader code over the abstract cursor = the string-reader code, per entry point.

`runA N prog (some ⟨bs, pos⟩) = lift bs r` reads: run over the cursor at `pos`, the stream reader's code terminates
with exactly the string reader's result `r` — value, or `false`, or error class — and leaves the cursor at the
string reader's new position (and never gets into the undefined state after a failed SetPosition). -/

theorem readValueType_stream_eq_string (N : Nat) (hN : 8 ≤ N) (bs : Bytes) (pos : Nat) :
    runA N StreamModel.readValueType (some ⟨bs, pos⟩) = lift bs ((Model.readValueType bs pos).map fun t => (t, pos)) :=
  StreamModel.readValueType_eq N bs (by omega) pos

theorem skipValue_stream_eq_string (N : Nat) (hN : 8 ≤ N) (bs : Bytes) (pos : Nat) :
    runA N (StreamModel.skip (bs.length + 1)) (some ⟨bs, pos⟩) = liftU bs (Model.skip bs pos) :=
  StreamModel.skipImpl_eq N bs (by omega) _ pos

/-- SkipValueImpl agrees at EVERY recursion budget (so also where the model's budget is exhausted) -/
theorem skipImpl_stream_eq_string (N : Nat) (hN : 8 ≤ N) (bs : Bytes) (fuel pos : Nat) :
    runA N (StreamModel.skipImpl fuel) (some ⟨bs, pos⟩) = liftU bs (Model.skipImpl fuel bs pos) :=
  StreamModel.skipImpl_eq N bs (by omega) fuel pos

theorem readNil_stream_eq_string (N : Nat) (hN : 8 ≤ N) (o : Opts) (bs : Bytes) (pos : Nat) :
    runA N (StreamModel.readNil (bs.length + 1) o) (some ⟨bs, pos⟩) = lift bs (Model.readNil o bs pos) :=
  StreamModel.readNil_eq N bs (by omega) o pos

/-- all ten integer `ReadValue` overloads (bool, char, uint8…uint64, int8…int64 = `tgt`) -/
theorem readInteger_stream_eq_string (N : Nat) (hN : 8 ≤ N) (tgt : IntTy) (o : Opts) (bs : Bytes) (pos : Nat) :
    runA N (StreamModel.readInteger (bs.length + 1) tgt o) (some ⟨bs, pos⟩) = lift bs (Model.readInteger tgt o bs pos) :=
  StreamModel.readInteger_eq N bs hN tgt o pos

theorem readFloat_stream_eq_string (N : Nat) (hN : 8 ≤ N) (o : Opts) (bs : Bytes) (pos : Nat) :
    runA N (StreamModel.readF32 (bs.length + 1) o) (some ⟨bs, pos⟩) = lift bs (Model.readF32 o bs pos) :=
  StreamModel.readF32_eq N bs hN o pos

theorem readDouble_stream_eq_string (N : Nat) (hN : 8 ≤ N) (o : Opts) (bs : Bytes) (pos : Nat) :
    runA N (StreamModel.readF64 (bs.length + 1) o) (some ⟨bs, pos⟩) = lift bs (Model.readF64 o bs pos) :=
  StreamModel.readF64_eq N bs hN o pos

/-- the string is assembled from chunks by the `ReadByChunks` loop: same bytes, same end position, and the same
    ParsingException when the declared size exceeds the remaining input -/
theorem readString_stream_eq_string (N : Nat) (hN : 8 ≤ N) (o : Opts) (bs : Bytes) (pos : Nat) :
    runA N (StreamModel.readStr (bs.length + 1) o) (some ⟨bs, pos⟩) = lift bs (Model.readStr o bs pos) :=
  StreamModel.readStr_eq N bs (by omega) o pos

/-- uses the GENERATED ByteCodeTable: every ext format has exactly one data byte (the type) besides the payload -/
theorem readTimestamp_stream_eq_string (N : Nat) (hN : 8 ≤ N) (o : Opts) (bs : Bytes) (pos : Nat) :
    runA N (StreamModel.readTs (bs.length + 1) o) (some ⟨bs, pos⟩) = lift bs (Model.readTs o bs pos) :=
  StreamModel.readTs_eq N bs hN o pos

theorem readArraySize_stream_eq_string (N : Nat) (hN : 8 ≤ N) (o : Opts) (bs : Bytes) (pos : Nat) :
    runA N (StreamModel.readArraySize (bs.length + 1) o) (some ⟨bs, pos⟩) = lift bs (Model.readArraySize o bs pos) :=
  StreamModel.readCount_eq N bs (by omega) _ _ _ o pos

theorem readMapSize_stream_eq_string (N : Nat) (hN : 8 ≤ N) (o : Opts) (bs : Bytes) (pos : Nat) :
    runA N (StreamModel.readMapSize (bs.length + 1) o) (some ⟨bs, pos⟩) = lift bs (Model.readMapSize o bs pos) :=
  StreamModel.readCount_eq N bs (by omega) _ _ _ o pos

theorem readBinarySize_stream_eq_string (N : Nat) (hN : 8 ≤ N) (o : Opts) (bs : Bytes) (pos : Nat) :
    runA N (StreamModel.readBinarySize (bs.length + 1) o) (some ⟨bs, pos⟩) = lift bs (Model.readBinarySize o bs pos) :=
  StreamModel.readBinarySize_eq N bs (by omega) o pos

theorem readBinary_stream_eq_string (N : Nat) (bs : Bytes) (pos : Nat) :
    runA N StreamModel.readBinary (some ⟨bs, pos⟩) = lift bs (stringReadBinary bs pos) :=
  StreamModel.readBinary_eq N bs pos

/-- `SetPosition` (repaired code): inside the data both move, beyond the end both throw std::invalid_argument -/
theorem setPosition_stream_eq_string (N : Nat) (bs : Bytes) (pos q : Nat) :
    runA N (StreamModel.setPos q) (some ⟨bs, pos⟩) = lift bs ((stringSetPos bs q).map fun p => ((), p)) :=
  StreamModel.setPos_eq N bs pos q

/-- **every entry point** (ReadValueType, SkipValue, all ReadValue overloads, Read*Size, ReadBinary, GetPosition,
    SetPosition, IsEnd) through one statement; `pos ≤ length` is the string reader's class invariant (needed by IsEnd only) -/
theorem stream_reader_equals_string_reader (N : Nat) (hN : 8 ≤ N) (o : Opts) (bs : Bytes) (pos : Nat)
    (hp : pos ≤ bs.length) (c : Call) :
    runA N (callProg (bs.length + 1) o c) (some ⟨bs, pos⟩) = lift bs (callString o bs pos c) :=
  StreamModel.callProg_eq N bs hN o pos hp c

/-- the string reader's class invariant is preserved by every successful call -/
theorem string_reader_stays_inside (o : Opts) (bs : Bytes) (pos : Nat) (hp : pos ≤ bs.length) (c : Call) (a : Ans) (p : Nat)
    (h : callString o bs pos c = .ok (a, p)) : p ≤ bs.length :=
  StreamModel.callString_pos_le o bs pos hp c a p h

/-- outcome of a call on the real stream reader `x` vs. on the string reader at (bs, ·): same answer, and the stream
    reader is again in a good state that stands for the string reader's new position; or the same error class -/
def SameOutcome (bs : Bytes) (N : Nat) : Except Err (Ans × Reader) → Except Err (Ans × Nat) → Prop
  | .ok (a, r'), .ok (a', p') => a = a' ∧ RInv r' ∧ r'.stream.data = bs ∧ r'.getPosition = p' ∧ r'.N = N
  | .error e, .error e' => e = e'
  | _, _ => False

/-- **any program** over the CBinaryStreamReader interface behaves on the real reader as on the abstract cursor
    (the generic simulation; `Agree`/`Rel` in MsgPack/StreamSim.lean) -/
theorem stream_program_refines_cursor (N : Nat) (p : Prog α) (r : Reader) (h : RInv r) (hN : r.N = N)
    (res : Except Err (α × Option Cursor)) (hA : runA N p (some (abs r)) = some res) :
    Agree N (run readerSrc p r) res :=
  StreamModel.run_refines_live N p r (abs r) res h rfl hN hA

/-- **C10 for one call**: from ANY reachable state of the real stream reader (any chunk size ≥ 8, any alignment of the
    cache window against the data), every entry point gives what the string reader gives at the same position. -/
theorem stream_call_equals_string_call (r : Reader) (h : RInv r) (hN : 8 ≤ r.N) (o : Opts) (c : Call) :
    SameOutcome r.stream.data r.N
      (run readerSrc (callProg (r.stream.data.length + 1) o c) r)
      (callString o r.stream.data r.getPosition c) := by
  rcases StreamModel.run_call r h hN o c with ⟨e, h1, h2⟩ | ⟨a, r', p', h1, h2, h3⟩
  · rw [h1, h2]; rfl
  · rw [h1, h2]; exact ⟨rfl, h3⟩

/-- **C10, every history**: any sequence of entry-point calls on ONE stream reader object gives the same sequence of
    answers (values, `false`s, the first error) as the same calls on a string reader — from any reachable state … -/
theorem stream_history_equals_string_history_from (o : Opts) (calls : List Call) :
    ∀ (r : Reader), RInv r → 8 ≤ r.N →
      histStream readerSrc (r.stream.data.length + 1) o r calls = histString o r.stream.data r.getPosition calls := by
  induction calls with
  | nil => intro r _ _; rfl
  | cons c cs ih =>
    intro r h hN
    simp only [histStream, histString]
    rcases StreamModel.run_call r h hN o c with ⟨e, h1, h2⟩ | ⟨a, r', p', h1, h2, hi, hd, hp, hn⟩
    · rw [h1, h2]
    · rw [h1, h2]
      have := ih r' hi (by omega)
      rw [hd, hp] at this
      simp only [this]

/-- … in particular from construction: **for every document, every chunk size N ≥ 8, every option setting and every
    history of calls**, `CMsgPackStreamReader` over a stream holding `data` answers exactly as `CMsgPackStringReader`
    over `data`. -/
theorem stream_history_equals_string_history (N : Nat) (hN : 8 ≤ N) (data : Bytes) (o : Opts) (calls : List Call) :
    histStream readerSrc (data.length + 1) o (Reader.mk' N data) calls = histString o data 0 calls := by
  obtain ⟨h1, h2, h3⟩ := BSVerif.Props.C10.init_refines N (by omega) data
  obtain ⟨hd, hp⟩ := StreamModel.abs_eq_iff.mp h2
  have := stream_history_equals_string_history_from o calls (Reader.mk' N data) h1 (by omega)
  rw [hd, hp] at this
  exact this

/-! Where the two copies differed (repaired), and why the hypotheses are needed. -/

-- lets `decide` compare run results
deriving instance DecidableEq for Except

/-- the UNREPAIRED `CMsgPackStreamReader::ReadValue(nullptr_t&)` passed `ByteCodeTable[byteCode].Type` instead of
    `ReadValueType()` (kept as `Model.readNilStream`): full statement "same outcome as the string reader" … -/
def OldNilAgrees : Prop := ∀ (o : Opts) (bs : Bytes) (pos : Nat), Model.readNilStream o bs pos = Model.readNil o bs pos

/-- … refuted: a truncated ext header under MismatchedTypesPolicy::ThrowError is MismatchedTypes from the stream but
    a ParsingError from memory (witness `mp.read mem|stream throw throw nil 0 c7`) -/
theorem old_nil_refuted : ¬ OldNilAgrees := by
  intro h
  have := h ⟨true, true⟩ [0xC7] 0
  revert this
  decide

/-- the old code agreed wherever `ReadValueType()` succeeds (a decidable exclusion) -/
theorem old_nil_partial (o : Opts) (bs : Bytes) (pos : Nat)
    (hx : (Model.readValueType bs pos).isOk = true) :
    Model.readNilStream o bs pos = Model.readNil o bs pos := by
  unfold Model.readNilStream Model.readNil Model.mismatchTail
  cases hb : bs[pos]? with
  | none => rfl
  | some b =>
    simp only []
    split
    · rfl
    · cases hv : Model.readValueType bs pos with
      | error e => rw [hv] at hx; cases hx
      | ok t =>
        simp only []
        -- `ReadValueType()` differs from the table's type only in Ext ↦ Timestamp, and neither is Nil
        have ht : (t ≠ Msgpack.vtNil) ↔ ((Model.entry b).type ≠ Msgpack.vtNil) := by
          unfold Model.readValueType at hv
          rw [hb] at hv
          simp only [] at hv
          split at hv
          · rename_i hext
            rw [hext]
            split at hv
            · cases hv
            · cases hv; split <;> decide
            · cases hv; decide
          · cases hv; exact Iff.rfl
        unfold Model.handleMismatch
        by_cases h1 : t ≠ Msgpack.vtNil
        · have h2 := ht.mp h1
          simp only [h1, h2, ne_eq, not_false_eq_true, true_and]
        · have h2 : ¬ ((Model.entry b).type ≠ Msgpack.vtNil) := fun h => h1 (ht.mpr h)
          simp only [h1, h2, false_and, if_false]

/-- the UNREPAIRED `CMsgPackStreamReader::SetPosition(pos)` ignored the result of `CBinaryStreamReader::SetPosition` -/
def setPosUnchecked (q : Nat) : Prog Unit := do
  let _ ← StreamModel.setPosition q
  pure ()

/-- … so beyond the end it returned normally (leaving the reader failed) where the string reader throws:
    witness `mp.seq … set:9` on a shorter input -/
theorem old_setPosition_refuted :
    runA 256 (setPosUnchecked 1) (some ⟨[], 0⟩) ≠ lift [] ((stringSetPos [] 1).map fun p => ((), p)) := by
  decide

/-- the chunk size must hold the largest solid block (8 bytes: uint64/int64/float64/timestamp64): with a 4-byte cache
    the stream reader cannot read `cf 00…01` although the string reader can -/
theorem small_chunk_refuted :
    runA 4 (StreamModel.readInteger 10 tyU64 ⟨true, true⟩) (some ⟨[0xCF, 0, 0, 0, 0, 0, 0, 0, 1], 0⟩)
      ≠ lift [0xCF, 0, 0, 0, 0, 0, 0, 0, 1] (Model.readInteger tyU64 ⟨true, true⟩ [0xCF, 0, 0, 0, 0, 0, 0, 0, 1] 0) := by
  decide

/-- the stream after the string writer's bytes `b` were appended to what it held -/
def appended (s : OStream) (b : Bytes) : OStream := ⟨s.out ++ b⟩

/-! `put` and the `PushValue` overloads as `appended`: the writer entry points then agree branch by branch. -/

theorem put_eq (s : OStream) (b : Nat) : s.put b = appended s [b] := rfl

theorem appended_appended (s : OStream) (a b : Bytes) : appended (appended s a) b = appended s (a ++ b) :=
  congrArg OStream.mk (List.append_assoc ..)

theorem pushCode1_eq (s : OStream) (code v : Nat) : StreamWriterModel.pushCode1 s code v = appended s [code, v] :=
  appended_appended s [code] [v]

theorem pushCode_eq (s : OStream) (code k v : Nat) :
    StreamWriterModel.pushCode s code k v = appended s (code :: Model.pushBE k v) :=
  appended_appended s [code] _

theorem push_eq (s : OStream) (k v : Nat) : StreamWriterModel.push s k v = appended s (Model.pushBE k v) := rfl

theorem writeNil_stream_eq_string (s : OStream) : StreamWriterModel.writeNil s = appended s Model.writeNil := rfl

theorem writeBool_stream_eq_string (b : Bool) (s : OStream) :
    StreamWriterModel.writeBool b s = appended s (Model.writeBool b) := rfl

theorem writeU8_stream_eq_string (v : Nat) (s : OStream) : StreamWriterModel.writeU8 v s = appended s (Model.writeU8 v) := by
  unfold StreamWriterModel.writeU8 Model.writeU8
  split
  · exact pushCode1_eq s 0xCC v
  · rfl

theorem writeU16_stream_eq_string (v : Nat) (s : OStream) : StreamWriterModel.writeU16 v s = appended s (Model.writeU16 v) := by
  unfold StreamWriterModel.writeU16 Model.writeU16
  split
  · exact pushCode_eq s 0xCD 2 v
  · exact writeU8_stream_eq_string v s

theorem writeU32_stream_eq_string (v : Nat) (s : OStream) : StreamWriterModel.writeU32 v s = appended s (Model.writeU32 v) := by
  unfold StreamWriterModel.writeU32 Model.writeU32
  split
  · exact pushCode_eq s 0xCE 4 v
  · exact writeU16_stream_eq_string v s

theorem writeU64_stream_eq_string (v : Nat) (s : OStream) : StreamWriterModel.writeU64 v s = appended s (Model.writeU64 v) := by
  unfold StreamWriterModel.writeU64 Model.writeU64
  split
  · exact pushCode_eq s 0xCF 8 v
  · exact writeU32_stream_eq_string v s

theorem writeI8_stream_eq_string (v : Int) (s : OStream) : StreamWriterModel.writeI8 v s = appended s (Model.writeI8 v) := by
  unfold StreamWriterModel.writeI8 Model.writeI8
  split
  · rfl
  · exact pushCode1_eq s 0xD0 _

theorem writeI16_stream_eq_string (v : Int) (s : OStream) : StreamWriterModel.writeI16 v s = appended s (Model.writeI16 v) := by
  unfold StreamWriterModel.writeI16 Model.writeI16
  split
  · exact pushCode1_eq s 0xCC _
  · split
    · exact pushCode_eq s 0xD1 2 _
    · exact writeI8_stream_eq_string v s

theorem writeI32_stream_eq_string (v : Int) (s : OStream) : StreamWriterModel.writeI32 v s = appended s (Model.writeI32 v) := by
  unfold StreamWriterModel.writeI32 Model.writeI32
  split
  · exact pushCode_eq s 0xCD 2 _
  · split
    · exact pushCode_eq s 0xD2 4 _
    · exact writeI16_stream_eq_string v s

theorem writeI64_stream_eq_string (v : Int) (s : OStream) : StreamWriterModel.writeI64 v s = appended s (Model.writeI64 v) := by
  unfold StreamWriterModel.writeI64 Model.writeI64
  split
  · exact pushCode_eq s 0xCE 4 _
  · split
    · exact pushCode_eq s 0xD3 8 _
    · exact writeI32_stream_eq_string v s

theorem writeFloat_stream_eq_string (bits : Nat) (s : OStream) : StreamWriterModel.writeF32 bits s = appended s (Model.writeF32 bits) :=
  pushCode_eq s 0xCA 4 bits

theorem writeDouble_stream_eq_string (bits : Nat) (s : OStream) : StreamWriterModel.writeF64 bits s = appended s (Model.writeF64 bits) :=
  pushCode_eq s 0xCB 8 bits

/-- strings: same header, same bytes, and the same OutOfRange error (before anything is written) for sizes ≥ 2^32 -/
theorem writeString_stream_eq_string (d : Bytes) (s : OStream) :
    StreamWriterModel.writeStr d s = (Model.writeStr d).map (appended s) := by
  unfold StreamWriterModel.writeStr Model.writeStr
  simp only
  by_cases h1 : d.length < 32
  · rw [if_pos h1, if_pos h1]; exact congrArg Except.ok (appended_appended s [_] d)
  rw [if_neg h1, if_neg h1]
  by_cases h2 : d.length ≤ 255
  · rw [if_pos h2, if_pos h2, pushCode1_eq]; exact congrArg Except.ok (appended_appended s _ d)
  rw [if_neg h2, if_neg h2]
  by_cases h3 : d.length ≤ 65535
  · rw [if_pos h3, if_pos h3, pushCode_eq]; exact congrArg Except.ok (appended_appended s _ d)
  rw [if_neg h3, if_neg h3]
  by_cases h4 : d.length ≤ 4294967295
  · rw [if_pos h4, if_pos h4, pushCode_eq]; exact congrArg Except.ok (appended_appended s _ d)
  · rw [if_neg h4, if_neg h4]; rfl

theorem writeTimestamp_stream_eq_string (sec ns : Int) (s : OStream) :
    StreamWriterModel.writeTs sec ns s = appended s (Model.writeTs sec ns) := by
  unfold StreamWriterModel.writeTs Model.writeTs
  simp only [put_eq, pushCode_eq, push_eq, appended_appended]
  split
  · split <;> rfl
  · rfl

theorem beginArray_stream_eq_string (n : Nat) (s : OStream) :
    StreamWriterModel.beginArray n s = (Model.beginArray n).map (appended s) := by
  simp only [StreamWriterModel.beginArray, Model.beginArray, apply_ite (Except.map (appended s)), put_eq, pushCode_eq]
  rfl

theorem beginMap_stream_eq_string (n : Nat) (s : OStream) :
    StreamWriterModel.beginMap n s = (Model.beginMap n).map (appended s) := by
  simp only [StreamWriterModel.beginMap, Model.beginMap, apply_ite (Except.map (appended s)), put_eq, pushCode_eq]
  rfl

theorem beginBinary_stream_eq_string (n : Nat) (s : OStream) :
    StreamWriterModel.beginBinary n s = (Model.beginBinary n).map (appended s) := by
  simp only [StreamWriterModel.beginBinary, Model.beginBinary, apply_ite (Except.map (appended s)), pushCode1_eq, pushCode_eq]
  rfl

/-- `WriteBinary(char)`: one `put` / one `push_back` -/
theorem writeBinary_stream_eq_string (b : Nat) (s : OStream) : StreamWriterModel.writeBinary b s = appended s [b] := rfl

/-- **every entry point** of the writer interface through one statement -/
theorem stream_writer_equals_string_writer (c : StreamWriterModel.WCall) (s : OStream) :
    StreamWriterModel.streamCall c s = (StreamWriterModel.stringCall c).map (appended s) := by
  cases c with
  | nil => exact congrArg Except.ok (writeNil_stream_eq_string s)
  | bool b => exact congrArg Except.ok (writeBool_stream_eq_string b s)
  | u8 v => exact congrArg Except.ok (writeU8_stream_eq_string v s)
  | u16 v => exact congrArg Except.ok (writeU16_stream_eq_string v s)
  | u32 v => exact congrArg Except.ok (writeU32_stream_eq_string v s)
  | u64 v => exact congrArg Except.ok (writeU64_stream_eq_string v s)
  | i8 v => exact congrArg Except.ok (writeI8_stream_eq_string v s)
  | i16 v => exact congrArg Except.ok (writeI16_stream_eq_string v s)
  | i32 v => exact congrArg Except.ok (writeI32_stream_eq_string v s)
  | i64 v => exact congrArg Except.ok (writeI64_stream_eq_string v s)
  | f32 b => exact congrArg Except.ok (writeFloat_stream_eq_string b s)
  | f64 b => exact congrArg Except.ok (writeDouble_stream_eq_string b s)
  | str d => exact writeString_stream_eq_string d s
  | ts sec ns => exact congrArg Except.ok (writeTimestamp_stream_eq_string sec ns s)
  | arr n => exact beginArray_stream_eq_string n s
  | map n => exact beginMap_stream_eq_string n s
  | bin n => exact beginBinary_stream_eq_string n s
  | binByte b => rfl

/-- **saving to a stream yields exactly the bytes of saving to memory**: any sequence of writer calls leaves in the
    stream what the same calls leave in the string (or both throw the same error at the same call) -/
theorem stream_session_equals_string_session (cs : List StreamWriterModel.WCall) :
    ∀ s : OStream, StreamWriterModel.streamSession cs s = (StreamWriterModel.stringSession cs s.out).map OStream.mk := by
  induction cs with
  | nil => intro s; rfl
  | cons c cs ih =>
    intro s
    simp only [StreamWriterModel.streamSession, StreamWriterModel.stringSession]
    rw [stream_writer_equals_string_writer c s]
    cases StreamWriterModel.stringCall c with
    | error e => rfl
    | ok b => simp only [Except.map]; exact ih (appended s b)

example : RInv (Reader.mk' 8 [0x92, 0xA3, 65, 66, 67, 0xCD, 1, 2, 0xC0]) := (BSVerif.Props.C10.init_refines 8 (by decide) _).1

/-- a string that straddles two refills of an 8-byte cache, then an integer split across the next boundary -/
example : histStream readerSrc 30 ⟨true, true⟩ (Reader.mk' 8 [0xAA, 1, 2, 3, 4, 5, 6, 7, 8, 9, 10, 0xCD, 1, 2, 0xC0])
    [.str, .getPos, .int tyU16, .nil, .isEnd] =
    [.ok (.bytes [1, 2, 3, 4, 5, 6, 7, 8, 9, 10]), .ok (.nat 11), .ok (.int 258), .ok .unit, .ok (.bool true)] := by decide

example : StreamWriterModel.streamSession [.arr 2, .str [65, 66], .i16 200, .ts 1 0] ⟨[]⟩ =
    .ok ⟨[0x92, 0xA2, 65, 66, 0xCC, 200, 0xD6, 0xFF, 0, 0, 0, 1]⟩ := by decide

end BSVerif.Props.C10mp
