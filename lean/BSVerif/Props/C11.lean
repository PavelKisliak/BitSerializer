/-
  C11 — Transcoding valid Unicode text between UTF-8/16/32 is exact and reversible.

  The four conversion loops are instances of one loop (BSVerif/Utf/Run.lean, Heads.lean); what is
  proved there once is stated here for each of them and for `Transcode`.
  Quantifiers: every list `t` of Unicode scalar values (unbounded length), every ordered pair of
  code-unit widths, both error policies, every error mark (including nullptr), every prior
  content `out` of the output string.
-/
import BSVerif.Utf.Heads
import BSVerif.Generated.UtfConsts

namespace BSVerif.Props.C11
open BSVerif.Utf BSVerif.Utf.Spec

/-- a text: Unicode scalar values (the modules under Utf/ write `∀ c ∈ t, IsScalar c`) -/
def AllScalar (t : List Nat) : Prop := ∀ c ∈ t, IsScalar c

theorem decode8_valid (w : Nat) (t : List Nat) (ht : AllScalar t)
    (pol : Policy) (mark : Option (List Nat)) (pos : Nat) (out : List Nat) (inv : Nat) :
    decode8 w pol mark (encs 8 t) pos out inv
      = ⟨out ++ encs (if w = 16 then 16 else 32) t, .success, pos + (encs 8 t).length, inv⟩ := by
  rw [decode8_eq_run]; exact run_valid (recognises_decode8 w) t ht ..

theorem encode8_valid (wi : Nat) (hwi : wi = 16 ∨ wi = 32) (t : List Nat) (ht : AllScalar t)
    (pol : Policy) (mark : Option (List Nat)) (pos : Nat) (out : List Nat) (inv : Nat) :
    encode8 wi pol mark (encs wi t) pos out inv
      = ⟨out ++ encs 8 t, .success, pos + (encs wi t).length, inv⟩ := by
  rw [encode8_eq_run]; exact run_valid (recognises_encode8 hwi) t ht ..

theorem decode16to32_valid (t : List Nat) (ht : AllScalar t)
    (pol : Policy) (mark : Option (List Nat)) (pos : Nat) (out : List Nat) (inv : Nat) :
    decode16to32 pol mark (encs 16 t) pos out inv
      = ⟨out ++ encs 32 t, .success, pos + (encs 16 t).length, inv⟩ := by
  rw [decode16to32_eq_run]; exact run_valid recognises_decode16to32 t ht ..

theorem encode16from32_valid (t : List Nat) (ht : AllScalar t)
    (pol : Policy) (mark : Option (List Nat)) (pos : Nat) (out : List Nat) (inv : Nat) :
    encode16from32 pol mark (encs 32 t) pos out inv
      = ⟨out ++ encs 16 t, .success, pos + (encs 32 t).length, inv⟩ := by
  rw [encode16from32_eq_run]; exact run_valid recognises_encode16from32 t ht ..

theorem copy16_valid (t : List Nat) (ht : AllScalar t) (pos : Nat) (out : List Nat) :
    copy16 (encs 16 t) pos out = ⟨out ++ encs 16 t, .success, pos + (encs 16 t).length, 0⟩ :=
  copy16_no_high_at_end _ (encs16_last t ht) pos out

/-- a code-unit width (the modules under Utf/ write the disjunction) -/
def Width (w : Nat) : Prop := w = 8 ∨ w = 16 ∨ w = 32

/-- **C11 (units).** For every scalar list, every pair of widths, every policy, every mark and every
    prior output content: `Transcode` appends exactly the standard encoding form, reports
    Success, zero invalid sequences, and an iterator at the end of the input. -/
theorem transcode_valid (wi wo : Nat) (hwi : Width wi) (hwo : Width wo) (t : List Nat) (ht : AllScalar t)
    (pol : Policy) (mark : Option (List Nat)) (out : List Nat) :
    transcode wi wo pol mark (encs wi t) out
      = ⟨out ++ encs wo t, .success, (encs wi t).length, 0⟩ := by
  by_cases hEq : wi = wo
  · subst hEq; simp [transcode, copyAll]
  · obtain ⟨hd, emit, hR, h⟩ := transcode_eq_run hwi hwo hEq
    rw [h, run_valid hR t ht, Nat.zero_add]

/-- **C11 (reversibility).** Transcoding there and back restores the input exactly. -/
theorem transcode_roundtrip (wi wo : Nat) (hwi : Width wi) (hwo : Width wo) (t : List Nat) (ht : AllScalar t)
    (pol pol' : Policy) (mark mark' : Option (List Nat)) :
    (transcode wo wi pol' mark' (transcode wi wo pol mark (encs wi t) []).out []).out = encs wi t := by
  rw [transcode_valid wi wo hwi hwo t ht]
  simp only [List.nil_append]
  rw [transcode_valid wo wi hwo hwi t ht]
  simp

-- The `Decode`/`Encode` entry points of the three classes: each width selects one loop, started at position 0,
-- and the loop's `_valid` theorem above applies.
theorem utf8Decode_valid (wo : Nat) (hwo : wo = 16 ∨ wo = 32) (t) (ht : AllScalar t) (pol mark out) :
    utf8Decode wo pol mark (encs 8 t) out = ⟨out ++ encs wo t, .success, (encs 8 t).length, 0⟩ := by
  rcases hwo with h | h <;> subst h <;> simp [utf8Decode, decode8_valid, ht]

theorem utf8Encode_valid (wi : Nat) (hwi : wi = 16 ∨ wi = 32) (t) (ht : AllScalar t) (pol mark out) :
    utf8Encode wi pol mark (encs wi t) out = ⟨out ++ encs 8 t, .success, (encs wi t).length, 0⟩ := by
  simp [utf8Encode, encode8_valid wi hwi t ht]

theorem utf16Decode_valid (wo : Nat) (hwo : Width wo) (t) (ht : AllScalar t) (pol mark out) :
    utf16Decode wo pol mark (encs 16 t) out = ⟨out ++ encs wo t, .success, (encs 16 t).length, 0⟩ := by
  rcases hwo with h | h | h <;> subst h <;>
    simp [utf16Decode, encode8_valid, decode16to32_valid, copy16_valid, ht]

theorem utf16Encode_valid (wi : Nat) (hwi : Width wi) (t) (ht : AllScalar t) (pol mark out) :
    utf16Encode wi pol mark (encs wi t) out = ⟨out ++ encs 16 t, .success, (encs wi t).length, 0⟩ := by
  rcases hwi with h | h | h <;> subst h <;>
    simp [utf16Encode, decode8_valid, encode16from32_valid, copy16_valid, ht]

theorem utf32Decode_valid (wo : Nat) (hwo : Width wo) (t) (ht : AllScalar t) (pol mark out) :
    utf32Decode wo pol mark (encs 32 t) out = ⟨out ++ encs wo t, .success, (encs 32 t).length, 0⟩ := by
  rcases hwo with h | h | h <;> subst h <;>
    simp [utf32Decode, utf16Encode, encode8_valid, encode16from32_valid, copyAll, ht]

theorem utf32Encode_valid (wi : Nat) (hwi : Width wi) (t) (ht : AllScalar t) (pol mark out) :
    utf32Encode wi pol mark (encs wi t) out = ⟨out ++ encs 32 t, .success, (encs wi t).length, 0⟩ := by
  rcases hwi with h | h | h <;> subst h <;>
    simp [utf32Encode, utf16Decode, decode8_valid, decode16to32_valid, copyAll, ht]

/-- `Memory::Reverse` is what a little-endian host sees when it loads big-endian bytes. -/
theorem reverse16_is_be (u : Nat) :
    unitOfBytesLE (unitBytesBE 16 u) = reverse16 u := by
  simp [unitBytesBE, unitOfBytesLE, reverse16]; omega

theorem reverse32_is_be (u : Nat) :
    unitOfBytesLE (unitBytesBE 32 u) = reverse32 u := by
  simp [unitBytesBE, unitOfBytesLE, reverse32]; omega

theorem le_roundtrip16 (u : Nat) (_h : u < 65536) : unitOfBytesLE (unitBytesLE 16 u) = u := by
  simp [unitOfBytesLE]; omega

theorem le_roundtrip32 (u : Nat) (_h : u < 4294967296) : unitOfBytesLE (unitBytesLE 32 u) = u := by
  have e1 : u / 65536 = u / 256 / 256 := (Nat.div_div_eq_div_mul u 256 256).symm
  have e2 : u / 16777216 = u / 256 / 256 / 256 := by rw [Nat.div_div_eq_div_mul, Nat.div_div_eq_div_mul]
  have e3 : u / 256 / 256 / 256 % 256 = u / 256 / 256 / 256 := Nat.mod_eq_of_lt (by omega)
  simp only [unitBytesLE_32, unitOfBytesLE, e1, e2, e3, Nat.mul_zero, Nat.add_zero, Nat.mod_add_div]

theorem reverse16_involutive (v : Nat) (h : v < 65536) : reverse16 (reverse16 v) = v :=
  reverseUnit_involutive (w := 16) (Or.inl rfl) h

theorem reverse32_involutive (v : Nat) (h : v < 4294967296) : reverse32 (reverse32 v) = v :=
  reverseUnit_involutive (w := 32) (Or.inr rfl) h

example : AllScalar [0x41, 0x7FF, 0x800, 0xFFFF, 0x10000, 0x10FFFF, 0] := by
  intro c hc; simp at hc; rcases hc with h | h | h | h | h | h | h <;> subst h <;> decide

example : (transcode 8 16 .skip none (encs 8 [0x41, 0x20AC, 0x1F600]) [7]).out
    = [7, 0x41, 0x20AC, 0xD83D, 0xDE00] := by
  rw [transcode_valid 8 16 (by simp [Width]) (by simp [Width]) _ (by unfold AllScalar; decide)]; decide

open BSVerif.Generated.Utf in
/-- The surrogate range constants compiled into the library (Generated/UtfConsts.lean, regenerated from the
    source tree by tools/translate.py) are the Unicode ones (D71/D73), i.e. the ones the model and the theorems
    above use as literals. -/
theorem consts_surrogates :
    highSurrogatesStart = 0xD800 ∧ highSurrogatesEnd = 0xDBFF ∧ lowSurrogatesStart = 0xDC00 ∧ lowSurrogatesEnd = 0xDFFF := by
  decide

end BSVerif.Props.C11
