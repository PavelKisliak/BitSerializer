/-
  C12 — Ill-formed UTF input is reported or replaced per policy, never propagated.

  Quantifiers: ALL code-unit sequences (well-formed or not, any length),
  both policies, every mark, every prior output content.
    * `*_bounds`       : the returned iterator stays inside the input (and never moves backwards)
    * termination      : every model function is total by construction (structural / measure recursion)
    * `*_shape`        : prior output preserved; what is appended is a sequence of standard encodings
                         of Unicode scalar values and error marks, nothing else; under Skip the count
                         equals the number of marks and InvalidSequence is never returned; under
                         ThrowError no mark is written
    * `transcode_output_wellformed` : hence the appended output is well-formed whenever the mark is
    * `*_throw_sound`  : Success under ThrowError implies the input WAS the standard encoding of a
                         scalar list and the output is its standard encoding (ill-formed input is
                         never accepted: no overlong forms, no surrogates, nothing above U+10FFFF)
-/
import BSVerif.Props.C11

namespace BSVerif.Props.C12
open BSVerif.Utf BSVerif.Utf.Spec

theorem decode8_bounds (w : Nat) (pol : Policy) (mark : Option (List Nat)) (inp : List Nat) (pos : Nat) (out : List Nat) (inv : Nat) :
    pos ≤ (decode8 w pol mark inp pos out inv).iter ∧ (decode8 w pol mark inp pos out inv).iter ≤ pos + inp.length := by
  rw [decode8_eq_run]; exact run_bounds head8_wf ..

theorem encode8_bounds (w : Nat) (pol : Policy) (mark : Option (List Nat)) (inp : List Nat) (pos : Nat) (out : List Nat) (inv : Nat) :
    pos ≤ (encode8 w pol mark inp pos out inv).iter ∧ (encode8 w pol mark inp pos out inv).iter ≤ pos + inp.length := by
  rw [encode8_eq_run]; exact run_bounds (headW_wf w) ..

theorem decode16to32_bounds (pol : Policy) (mark : Option (List Nat)) (inp : List Nat) (pos : Nat) (out : List Nat) (inv : Nat) :
    pos ≤ (decode16to32 pol mark inp pos out inv).iter ∧ (decode16to32 pol mark inp pos out inv).iter ≤ pos + inp.length := by
  rw [decode16to32_eq_run]; exact run_bounds (headW_wf 16) ..

theorem encode16from32_bounds (pol : Policy) (mark : Option (List Nat)) (inp : List Nat) (pos : Nat) (out : List Nat) (inv : Nat) :
    pos ≤ (encode16from32 pol mark inp pos out inv).iter ∧ (encode16from32 pol mark inp pos out inv).iter ≤ pos + inp.length := by
  rw [encode16from32_eq_run]; exact run_bounds (headW_wf 32) ..

theorem copy16_bounds (inp : List Nat) (pos : Nat) (out : List Nat) :
    pos ≤ (copy16 inp pos out).iter ∧ (copy16 inp pos out).iter ≤ pos + inp.length := by
  obtain ⟨j, code, h, hj, _⟩ := copy16_prefix inp pos out
  rw [h]; exact ⟨Nat.le_add_right .., Nat.add_le_add_left hj _⟩

/-- **C12 (bounds).** `Transcode` never reports an iterator outside its input, for any input. -/
theorem transcode_in_bounds (wi wo : Nat) (pol : Policy) (mark : Option (List Nat)) (inp out : List Nat) :
    (transcode wi wo pol mark inp out).iter ≤ inp.length := by
  have z : ∀ {r : Res}, 0 ≤ r.iter ∧ r.iter ≤ 0 + inp.length → r.iter ≤ inp.length := fun h => by omega
  exact (dispatch_ind (·.iter ≤ inp.length) pol mark inp out (fun _ => z (decode8_bounds ..))
    (fun _ => z (encode8_bounds ..)) (z (decode16to32_bounds ..)) (z (encode16from32_bounds ..))
    (z (copy16_bounds ..)) (Nat.le_of_eq (Nat.zero_add _)) wi wo).1

theorem decode8_shape (w : Nat) (hw : w = 16 ∨ w = 32) (pol : Policy) (mark : Option (List Nat)) (inp : List Nat) (pos : Nat) (out : List Nat) (inv : Nat) :
    Shape w pol mark out inv (decode8 w pol mark inp pos out inv) := by
  rw [decode8_eq_run]
  rcases hw with rfl | rfl <;> exact run_shape (recognises_decode8 _) inp (fun _ _ => trivial) ..

theorem encode8_shape (wi : Nat) (pol : Policy) (mark : Option (List Nat)) (inp : List Nat)
    (hin : ∀ u ∈ inp, u < 2 ^ wi) (hwi : wi = 16 ∨ wi = 32) (pos : Nat) (out : List Nat) (inv : Nat) :
    Shape 8 pol mark out inv (encode8 wi pol mark inp pos out inv) := by
  rw [encode8_eq_run]; exact run_shape (recognises_encode8 hwi) inp hin ..

theorem decode16to32_shape (pol : Policy) (mark : Option (List Nat)) (inp : List Nat)
    (hin : ∀ u ∈ inp, u < 2 ^ 16) (pos : Nat) (out : List Nat) (inv : Nat) :
    Shape 32 pol mark out inv (decode16to32 pol mark inp pos out inv) := by
  rw [decode16to32_eq_run]; exact run_shape recognises_decode16to32 inp hin ..

theorem encode16from32_shape (pol : Policy) (mark : Option (List Nat)) (inp : List Nat)
    (pos : Nat) (out : List Nat) (inv : Nat) :
    Shape 16 pol mark out inv (encode16from32 pol mark inp pos out inv) := by
  rw [encode16from32_eq_run]; exact run_shape recognises_encode16from32 inp (fun _ _ => trivial) ..

/-- **C12 (shape).** For every input whatsoever and every pair of *different* widths, `Transcode`
    preserves the prior output and appends only standard encodings of scalar values and error
    marks; under Skip the reported count equals the number of marks written and the code is
    never InvalidSequence; under ThrowError no mark is ever written. -/
theorem transcode_shape (wi wo : Nat) (hwi : C11.Width wi) (hwo : C11.Width wo) (hne : wi ≠ wo)
    (pol : Policy) (mark : Option (List Nat)) (inp : List Nat) (hin : ∀ u ∈ inp, u < 2 ^ wi) (out : List Nat) :
    Shape wo pol mark out 0 (transcode wi wo pol mark inp out) := by
  obtain ⟨hd, emit, hR, h⟩ := transcode_eq_run hwi hwo hne
  rw [h]; exact run_shape hR inp hin ..

theorem render_wellformed (wo : Nat) (mark : Option (List Nat)) (items : List (Option Nat))
    (hs : ∀ c, some c ∈ items → IsScalar c) (hm : WellFormed wo (mark.getD [])) :
    WellFormed wo (render wo mark items) := by
  induction items with
  | nil => exact ⟨[], by simp, by simp [render]⟩
  | cons it items ih =>
    obtain ⟨t, ht, he⟩ := ih (fun c hc => hs c (by simp [hc]))
    cases it with
    | some c =>
      refine ⟨c :: t, ?_, by simp [render, he]⟩
      intro x hx; simp at hx; rcases hx with rfl | hx
      · exact hs x (by simp)
      · exact ht x hx
    | none =>
      obtain ⟨tm, htm, hem⟩ := hm
      refine ⟨tm ++ t, ?_, ?_⟩
      · intro x hx; simp at hx; rcases hx with hx | hx; exact htm x hx; exact ht x hx
      · simp [render, encs, List.flatMap_append] at *; rw [hem, he]

/-- **C12 (output well-formed).** Whatever the input, what `Transcode` appends is well-formed in the
    target encoding form whenever the error mark is. -/
theorem transcode_output_wellformed (wi wo : Nat) (hwi : C11.Width wi) (hwo : C11.Width wo) (hne : wi ≠ wo)
    (pol : Policy) (mark : Option (List Nat)) (inp : List Nat) (hin : ∀ u ∈ inp, u < 2 ^ wi) (out : List Nat)
    (hm : WellFormed wo (mark.getD [])) :
    ∃ appended, (transcode wi wo pol mark inp out).out = out ++ appended ∧ WellFormed wo appended := by
  obtain ⟨items, h1, h2, _, _⟩ := transcode_shape wi wo hwi hwo hne pol mark inp hin out
  exact ⟨_, h1, render_wellformed wo mark items h2 hm⟩

/-- **C12 (never propagated, UTF-8 source).** If `Utf8::Decode` reports Success under ThrowError, the
    input was exactly the standard (shortest-form, surrogate-free, ≤ U+10FFFF) UTF-8 encoding of a
    list of scalar values, and the output is its standard encoding in the target form. -/
theorem decode8_throw_sound (w : Nat) (hw : w = 16 ∨ w = 32) (mark : Option (List Nat)) (inp : List Nat)
    (pos : Nat) (out : List Nat) (inv : Nat) :
    (decode8 w .throwError mark inp pos out inv).code = .success →
    ∃ t, C11.AllScalar t ∧ inp = encs 8 t ∧ (decode8 w .throwError mark inp pos out inv).out = out ++ encs w t := by
  rw [decode8_eq_run]
  rcases hw with rfl | rfl <;> exact run_throw_sound (recognises_decode8 _) inp (fun _ _ => trivial) _ _ _

theorem handleError_throw (out : List Nat) (mark : Option (List Nat)) : handleError out .throwError mark = none := rfl

theorem encode8_throw_sound (wi : Nat) (hwi : wi = 16 ∨ wi = 32) (mark : Option (List Nat)) (inp : List Nat)
    (hin : ∀ u ∈ inp, u < 2 ^ wi) (pos : Nat) (out : List Nat) (inv : Nat) :
    (encode8 wi .throwError mark inp pos out inv).code = .success →
    ∃ t, C11.AllScalar t ∧ inp = encs wi t ∧ (encode8 wi .throwError mark inp pos out inv).out = out ++ encs 8 t := by
  rw [encode8_eq_run]; exact run_throw_sound (recognises_encode8 hwi) inp hin _ _ _

theorem decode16to32_throw_sound (mark : Option (List Nat)) (inp : List Nat) (hin : ∀ u ∈ inp, u < 2 ^ 16)
    (pos : Nat) (out : List Nat) (inv : Nat) :
    (decode16to32 .throwError mark inp pos out inv).code = .success →
    ∃ t, C11.AllScalar t ∧ inp = encs 16 t ∧ (decode16to32 .throwError mark inp pos out inv).out = out ++ encs 32 t := by
  rw [decode16to32_eq_run]; exact run_throw_sound recognises_decode16to32 inp hin _ _ _

theorem encode16from32_throw_sound (mark : Option (List Nat)) (inp : List Nat) (pos : Nat) (out : List Nat) (inv : Nat) :
    (encode16from32 .throwError mark inp pos out inv).code = .success →
    ∃ t, C11.AllScalar t ∧ inp = encs 32 t ∧ (encode16from32 .throwError mark inp pos out inv).out = out ++ encs 16 t := by
  rw [encode16from32_eq_run]; exact run_throw_sound recognises_encode16from32 inp (fun _ _ => trivial) _ _ _

/-- **C12 (never propagated), every pair of different widths.** If `Transcode` reports Success under the
    ThrowError policy then its input WAS the standard encoding of a list of Unicode scalar values — no
    overlong form, no surrogate, nothing above U+10FFFF, no cropped sequence — and what it appended is exactly
    that text in the target encoding form. -/
theorem transcode_throw_sound (wi wo : Nat) (hwi : C11.Width wi) (hwo : C11.Width wo) (hne : wi ≠ wo)
    (mark : Option (List Nat)) (inp : List Nat) (hin : ∀ u ∈ inp, u < 2 ^ wi) (out : List Nat)
    (hs : (transcode wi wo .throwError mark inp out).code = .success) :
    ∃ t, C11.AllScalar t ∧ inp = encs wi t ∧ (transcode wi wo .throwError mark inp out).out = out ++ encs wo t := by
  obtain ⟨hd, emit, hR, h⟩ := transcode_eq_run hwi hwo hne
  rw [h] at hs ⊢; exact run_throw_sound hR inp hin _ _ _ hs

/-! #### non-vacuity: concrete ill-formed inputs reach the interesting branches -/

example : (transcode 8 16 .skip (some [0x2610]) [0xC0, 0x80, 0x41] [7]).out = [7, 0x2610, 0x41] := by
  simp [transcode, utf16Encode, decode8, classify8, foldTails, handleError, isSurrogate]

example : (transcode 8 32 .throwError none [0x41, 0xED, 0xA0, 0x80] []).iter = 1 := by
  simp [transcode, utf32Encode, decode8, classify8, foldTails, handleError, isSurrogate]

end BSVerif.Props.C12
