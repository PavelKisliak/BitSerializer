/-
  C13 — Encoded text streams: encoding detection, BOM and chunked decoding are lossless.

  Umbrella module (what `tools/check.py C13` builds and audits). The property theorems live in
    * Props/C13Detect.lean   — regenerated BOM table, BOM / BOM-less detection, ambiguity,
                               progress and termination of the chunked reader for EVERY byte stream;
    * Props/C13Writer.lean   — the writer emits exactly the configured encoding and BOM;
    * Props/C13Lossless.lean — main clause: a well-formed text in any of the five encodings is read
                               back exactly (`Success* EndFile`, text = `encs wo t`) for every chunk
                               size ≥ 32, with and without BOM; writer session → reader round trip.
  All of them are in namespace `BSVerif.Props.C13`.
-/
import BSVerif.Props.C13Detect
import BSVerif.Props.C13Writer
import BSVerif.Props.C13Lossless
