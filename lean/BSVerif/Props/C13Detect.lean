/-
  C13 — Encoded text streams: encoding detection, BOM and chunked decoding are lossless.
  This part: the BOM table, detection with and without BOM, progress and termination of the chunked
  reader on every byte stream.
-/
import BSVerif.Utf.StreamOracle
import BSVerif.Utf.Progress
import BSVerif.Generated.UtfConsts

namespace BSVerif.Props.C13
open BSVerif.Utf BSVerif.Utf.Spec BSVerif.Utf.StreamOracle

/-- The BOM table compiled into the library is the Unicode one, for all five encodings. -/
theorem bom_table : ∀ t : UtfType, bomOf t = specBom t := by
  intro t; cases t <;> decide

/-- The default chunk size satisfies the reader's `static_assert`s (multiple of 4, ≥ 32). -/
theorem chunk_size_obligation :
    Generated.Utf.encodedStreamReaderDefaultChunk % 4 = 0 ∧ 32 ≤ Generated.Utf.encodedStreamReaderDefaultChunk := by
  decide

/-- **BOM detection**, all encodings, any body. The UTF-16LE BOM followed by two zero bytes *is* the
    UTF-32LE BOM (Unicode's own ambiguity), hence the side condition. -/
theorem detect_bom (e : UtfType) (body : List Nat)
    (h16 : e = .utf16le → ¬ [0, 0].isPrefixOf body) :
    detect (specBom e ++ body) = (e, (specBom e).length) := by
  unfold detect
  simp only [bom_table, startsWith]
  cases e
  case utf16le =>
    have := h16 rfl
    match body, this with
    | [], _ => rfl
    | [_], _ => simp [specBom]
    | a :: b :: r, h => simp [specBom] at h ⊢; exact h
  all_goals simp [specBom]

/-- The NUL-freeness side condition of BOM-less detection is forced: two different texts in two
    different encodings can be the same bytes, so no detector can satisfy the unrestricted claim. -/
theorem ambiguous : bytesLE 8 (encs 8 [0x41, 0]) = bytesLE 16 (encs 16 [0x41]) ∧ [0x41, 0] ≠ [0x41] := by
  decide

theorem detect_no_bom {s : List Nat} (hs : s ≠ []) (h : ∀ t, (specBom t).isPrefixOf s = false) :
    detect s = (analyse s s.length 0, 0) := by
  unfold detect
  simp only [bom_table, startsWith, h, List.isEmpty_iff, hs, Bool.false_eq_true, if_false]

/-- every BOM starts with 0xEF, 0xFF, 0xFE or 0 -/
theorem no_bom_of_head {a : Nat} (s : List Nat) (h1 : a ≠ 0xEF) (h2 : a ≠ 0xFF) (h3 : a ≠ 0xFE) (h4 : a ≠ 0) :
    ∀ t, (specBom t).isPrefixOf (a :: s) = false := by
  intro t; cases t <;> simp [specBom, List.isPrefixOf, h1.symm, h2.symm, h3.symm, h4.symm]

/-- the 32-bit and the 16-bit test of one round of the analysis loop -/
def zeros32 (s : List Nat) (i : Nat) : Option UtfType :=
  if i % 4 = 0 ∧ i + 4 ≤ s.length then
    if le32At s i ≠ 0 then
      if le32At s i / 65536 = 0 then some .utf32le else if le32At s i % 65536 = 0 then some .utf32be else none
    else none
  else none

def zeros16 (s : List Nat) (i : Nat) : Option UtfType :=
  if i % 2 = 0 ∧ i + 2 ≤ s.length then
    if le16At s i ≠ 0 then
      if le16At s i / 256 = 0 then some .utf16le else if le16At s i % 256 = 0 then some .utf16be else none
    else none
  else none

theorem analyse_succ (s : List Nat) (fuel i : Nat) :
    analyse s (fuel + 1) i =
      if i ≥ s.length then .utf8 else
      match zeros32 s i with
      | some t => t
      | none => match zeros16 s i with
        | some t => t
        | none => analyse s fuel (i + 1) := rfl

theorem getD_mem (s : List Nat) (i : Nat) (h : i < s.length) : s.getD i 0 ∈ s := by
  simp only [List.getD_eq_getElem?_getD, List.getElem?_eq_getElem h, Option.getD_some]; exact List.getElem_mem h

/-- a byte string without zero bytes is never taken for UTF-16/32 by the zero-pattern analysis -/
theorem analyse_no_zero (s : List Nat) (hnz : ∀ b ∈ s, 0 < b ∧ b < 256) : ∀ fuel i, analyse s fuel i = .utf8 := by
  intro fuel
  induction fuel with
  | zero => intro i; rfl
  | succ fuel ih =>
    intro i
    rw [analyse_succ]
    split
    · rfl
    · have h32 : zeros32 s i = none := by
        unfold zeros32
        split
        · have b0 := hnz _ (getD_mem s i (by omega))
          have b1 := hnz _ (getD_mem s (i + 1) (by omega))
          have b2 := hnz _ (getD_mem s (i + 2) (by omega))
          have b3 := hnz _ (getD_mem s (i + 3) (by omega))
          have hx : le32At s i ≠ 0 ∧ le32At s i / 65536 ≠ 0 ∧ le32At s i % 65536 ≠ 0 := by unfold le32At; omega
          rw [if_pos hx.1, if_neg hx.2.1, if_neg hx.2.2]
        · rfl
      have h16 : zeros16 s i = none := by
        unfold zeros16
        split
        · have b0 := hnz _ (getD_mem s i (by omega))
          have b1 := hnz _ (getD_mem s (i + 1) (by omega))
          have hx : le16At s i ≠ 0 ∧ le16At s i / 256 ≠ 0 ∧ le16At s i % 256 ≠ 0 := by unfold le16At; omega
          rw [if_pos hx.1, if_neg hx.2.1, if_neg hx.2.2]
        · rfl
      rw [h32, h16]; exact ih (i + 1)

/-- **BOM-less UTF-8**: any byte string without zero bytes that starts with an ASCII character is detected as UTF-8 -/
theorem detect_utf8_nobom (c : Nat) (rest : List Nat) (hc : 0 < c ∧ c < 0x80) (hnz : ∀ b ∈ rest, 0 < b ∧ b < 256) :
    detect (c :: rest) = (.utf8, 0) := by
  rw [detect_no_bom (List.cons_ne_nil _ _) (no_bom_of_head _ (by omega) (by omega) (by omega) (by omega)),
    analyse_no_zero _ (List.forall_mem_cons.mpr ⟨by omega, hnz⟩)]

theorem zeros32_zero (a b c d : Nat) (s : List Nat) :
    zeros32 (a :: b :: c :: d :: s) 0 =
      if a + 256 * b + 65536 * c + 16777216 * d ≠ 0 then
        if (a + 256 * b + 65536 * c + 16777216 * d) / 65536 = 0 then some .utf32le
        else if (a + 256 * b + 65536 * c + 16777216 * d) % 65536 = 0 then some .utf32be else none
      else none := by
  simp [zeros32, le32At]

theorem zeros32_short {s : List Nat} (h : s.length < 4) : zeros32 s 0 = none :=
  if_neg fun h' => by omega

/-- two 16-bit units, the first not zero, the second (if there) not zero, are no 32-bit unit with a zero half -/
theorem zeros32_of_units16 {x y : Nat} (hx : x < 256) (hy : y < 256) (hxy : x + 256 * y ≠ 0) {rest : List Nat}
    (hrest : ∀ a b r, rest = a :: b :: r → a < 256 ∧ b < 256 ∧ ¬ (a = 0 ∧ b = 0)) :
    zeros32 (x :: y :: rest) 0 = none := by
  match rest, hrest with
  | [], _ | [_], _ => exact zeros32_short (by simp)
  | a :: b :: r, hr =>
    obtain ⟨ha, hb, hab⟩ := hr a b r rfl
    rw [zeros32_zero, if_pos (by omega), if_neg (by omega), if_neg (by omega)]

theorem zeros16_zero (a b : Nat) (s : List Nat) :
    zeros16 (a :: b :: s) 0 =
      if a + 256 * b ≠ 0 then
        if (a + 256 * b) / 256 = 0 then some .utf16le else if (a + 256 * b) % 256 = 0 then some .utf16be else none
      else none := by
  simp [zeros16, le16At]

/-- **BOM-less UTF-16LE**: first unit ASCII (non-NUL), second unit (if any) not NUL -/
theorem detect_utf16le_nobom (c : Nat) (rest : List Nat) (hc : 0 < c ∧ c < 0x80)
    (hrest : ∀ a b r, rest = a :: b :: r → a < 256 ∧ b < 256 ∧ ¬ (a = 0 ∧ b = 0)) :
    detect (c :: 0 :: rest) = (.utf16le, 0) := by
  rw [detect_no_bom (List.cons_ne_nil _ _) (no_bom_of_head _ (by omega) (by omega) (by omega) (by omega)),
    List.length_cons, analyse_succ, if_neg (by simp), zeros32_of_units16 (by omega) (by omega) (by omega) hrest,
    zeros16_zero, if_pos (by omega), if_pos (by omega)]

theorem detect_utf16be_nobom (c : Nat) (rest : List Nat) (hc : 0 < c ∧ c < 0x80)
    (hrest : ∀ a b r, rest = a :: b :: r → a < 256 ∧ b < 256 ∧ ¬ (a = 0 ∧ b = 0)) :
    detect (0 :: c :: rest) = (.utf16be, 0) := by
  have hb : ∀ t, (specBom t).isPrefixOf (0 :: c :: rest) = false := by
    intro t; cases t <;> simp [specBom, List.isPrefixOf]; omega
  rw [detect_no_bom (List.cons_ne_nil _ _) hb,
    List.length_cons, analyse_succ, if_neg (by simp), zeros32_of_units16 (by omega) (by omega) (by omega) hrest,
    zeros16_zero, if_pos (by omega), if_neg (by omega), if_pos (by omega)]

theorem detect_utf32le_nobom (c : Nat) (rest : List Nat) (hc : 0 < c ∧ c < 0x80) :
    detect (c :: 0 :: 0 :: 0 :: rest) = (.utf32le, 0) := by
  rw [detect_no_bom (List.cons_ne_nil _ _) (no_bom_of_head _ (by omega) (by omega) (by omega) (by omega)),
    List.length_cons, analyse_succ, if_neg (by simp), zeros32_zero, if_pos (by omega), if_pos (by omega)]

theorem detect_utf32be_nobom (c : Nat) (rest : List Nat) (hc : 0 < c ∧ c < 0x80) :
    detect (0 :: 0 :: 0 :: c :: rest) = (.utf32be, 0) := by
  have hb : ∀ t, (specBom t).isPrefixOf (0 :: 0 :: 0 :: c :: rest) = false := by
    intro t; cases t <;> simp [specBom, List.isPrefixOf]
  rw [detect_no_bom (List.cons_ne_nil _ _) hb,
    List.length_cons, analyse_succ, if_neg (by simp), zeros32_zero, if_pos (by omega), if_neg (by omega), if_pos (by omega)]

/-- the window invariant of `CEncodedStreamReader`, `Utf.WInv` (Utf/Progress.lean) -/
abbrev WInv := BSVerif.Utf.WInv

/-- **Every successful `ReadChunk` makes progress**: for every reader state with a chunk size that
    satisfies the class's `static_assert`s (here: ≥ 32), every stream content, policy and target
    width, a call that returns Success strictly decreases
    `unread stream bytes + buffered bytes + [stream not yet at eof]`, and keeps the window invariant.
    (On the tree before commit 41d2b3f this was false: a stream ending inside a UTF-16/32 code unit
    left 1–3 bytes in the window for ever.) -/
theorem readChunk_progress (r : Reader) (out : List Nat) (hN : 32 ≤ r.N) (hinv : WInv r)
    (hs : (r.readChunk out).1 = .success) :
    (r.readChunk out).2.2.measure < r.measure ∧ WInv (r.readChunk out).2.2 ∧ (r.readChunk out).2.2.N = r.N :=
  readChunk_success hN hinv (by rw [← hs])

/-- **A caller that reads until EndFile/DecodeError always terminates**, for every byte stream
    (well-formed, ill-formed or truncated anywhere), every N ≥ 32, policy, mark and target width:
    `len + 2` calls always suffice. -/
theorem readAll_terminates (N wo : Nat) (pol : Policy) (mark : Option (List Nat)) (bytes : List Nat) (hN : 32 ≤ N) :
    (Reader.readAll (bytes.length + 2) (Reader.mk' N wo pol mark bytes) [] []).2.2 = false := by
  obtain ⟨h1, h2, h3⟩ := mk'_spec N wo pol mark bytes
  exact readAll_no_hang _ _ _ _ (by omega) h1 (by omega)

example : (Reader.mk' 32 8 .skip (some [0x3F]) [0xFF, 0xFE, 0x41, 0x00, 0x42]).utf = .utf16le := by decide

end BSVerif.Props.C13
