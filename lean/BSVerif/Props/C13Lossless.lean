/-
  C13 — main clause: "A text stream written in any of the five UTF encodings is read back as the
  same text … The result does not depend on the stream length relative to the reader's chunk size
  or on multi-unit characters straddling chunk boundaries."

  Objects: the MODEL of `CEncodedStreamReader` (`Reader.mk'`, `Reader.readChunk`, `Reader.readAll`
  in BSVerif/Utf/Stream.lean) on top of the transcoder model; the SPEC encoders `encs` and the
  Spec byte serialisations `bytesLE`/`bytesBE` (through `encBytes`).

  Quantifiers: every chunk size N ≥ 32 (the class's static_assert), every encoding, every target
  width, both policies, every error mark, every list of Unicode scalar values (any length — shorter
  than, equal to, or many times the chunk size; characters may straddle chunk boundaries anywhere).
-/
import BSVerif.Utf.Lossless
import BSVerif.Utf.LosslessDetect
import BSVerif.Props.C13Detect
import BSVerif.Props.C13Writer

namespace BSVerif.Props.C13
open BSVerif.Utf BSVerif.Utf.Spec BSVerif.Utf.StreamOracle

/-- stream content: optional BOM, then the Spec serialisation of the Spec encoding of `t` -/
def streamBytes (e : UtfType) (withBom : Bool) (t : List Nat) : List Nat :=
  (if withBom then bomOf e else []) ++ encBytes e (encs e.width t)

def SuccessThenEnd (rs : List ReadResult) : Prop := ∃ n, rs = List.replicate n .success ++ [.endFile]

/-- The full statement of the clause for one stream: a caller looping on `ReadChunk` gets
    `Success … Success EndFile`, exactly the text in the target encoding form, and does not hang. -/
def ReadsBack (N wo : Nat) (pol : Policy) (mark : Option (List Nat)) (bytes : List Nat) (t : List Nat)
    (fuel : Nat) : Prop :=
  ∃ rs, SuccessThenEnd rs ∧
    Reader.readAll fuel (Reader.mk' N wo pol mark bytes) [] [] = (rs, encs wo t, false)

/-- generic core: whenever detection on the first chunk is right, the stream is read back -/
theorem reads_back_of_detect (N : Nat) (hN : 32 ≤ N) (e : UtfType) (wo : Nat) (hwo : wo = 8 ∨ wo = 16 ∨ wo = 32)
    (pol : Policy) (mark : Option (List Nat)) (t : List Nat) (ht : ∀ c ∈ t, IsScalar c) (pre : List Nat)
    (hpre : pre.length ≤ 4) (hne : pre ++ encBytes e (encs e.width t) ≠ [])
    (hdet : detect ((pre ++ encBytes e (encs e.width t)).take N) = (e, pre.length))
    (fuel : Nat) (hfuel : (pre ++ encBytes e (encs e.width t)).length + 2 ≤ fuel) :
    ReadsBack N wo pol mark (pre ++ encBytes e (encs e.width t)) t fuel := by
  have hinv := mk'_inv N wo pol mark e t pre hN hpre hne hdet
  obtain ⟨_, _, hm⟩ := mk'_spec N wo pol mark (pre ++ encBytes e (encs e.width t))
  obtain ⟨n, hn⟩ := readAll_lossless e wo hwo t ht fuel _ [] [] hinv (by omega)
  exact ⟨_, ⟨n, rfl⟩, by simpa using hn⟩

/-- **C13, main clause, streams with BOM.** For every chunk size `N ≥ 32`, every encoding `e`,
    every target width, policy, mark and every text `t` of Unicode scalar values: the stream
    `BOM(e) ++ bytes_e(encs e.width t)` is read back by the `ReadChunk` loop as exactly
    `encs wo t`, with results `Success* EndFile`, without hanging (`len + 2` calls suffice).
    Side condition `h16` is literally the one of `detect_bom`: a UTF-16LE BOM followed by the
    character U+0000 is byte-identical to the UTF-32LE BOM (Unicode's own ambiguity). -/
theorem read_lossless_bom (N : Nat) (hN : 32 ≤ N) (e : UtfType) (wo : Nat) (hwo : wo = 8 ∨ wo = 16 ∨ wo = 32)
    (pol : Policy) (mark : Option (List Nat)) (t : List Nat) (ht : ∀ c ∈ t, IsScalar c)
    (h16 : e = .utf16le → ¬ [0, 0].isPrefixOf (encBytes e (encs e.width t)))
    (fuel : Nat) (hfuel : (streamBytes e true t).length + 2 ≤ fuel) :
    ReadsBack N wo pol mark (streamBytes e true t) t fuel := by
  simp only [streamBytes, if_true] at hfuel ⊢
  refine reads_back_of_detect N hN e wo hwo pol mark t ht (bomOf e) (bomOf_length_le e)
    (by simp [bomOf_ne_nil]) ?_ fuel hfuel
  have hl := bomOf_length_le e
  rw [List.take_append, List.take_of_length_le (by omega), bom_table e]
  exact detect_bom e _ fun he hp => h16 he <|
    List.isPrefixOf_iff_prefix.mpr ((List.isPrefixOf_iff_prefix.mp hp).trans (List.take_prefix ..))

/-- **C13, main clause, with the text-level side condition.** -/
theorem read_lossless_bom' (N : Nat) (hN : 32 ≤ N) (e : UtfType) (wo : Nat) (hwo : wo = 8 ∨ wo = 16 ∨ wo = 32)
    (pol : Policy) (mark : Option (List Nat)) (t : List Nat) (ht : ∀ c ∈ t, IsScalar c)
    (h0 : e = .utf16le → t.head? ≠ some 0) :
    ReadsBack N wo pol mark (streamBytes e true t) t ((streamBytes e true t).length + 2) :=
  read_lossless_bom N hN e wo hwo pol mark t ht
    (fun he => by subst he; exact utf16le_not_zero_prefix t ht (h0 rfl)) _ (Nat.le_refl _)

/-- **The decoded text does not depend on the chunk size** (hence not on where chunk boundaries
    fall inside the stream or inside multi-unit characters): any two chunk sizes ≥ 32 give the
    same text, the same final result, and neither hangs. -/
theorem chunk_size_irrelevant (N1 N2 : Nat) (h1 : 32 ≤ N1) (h2 : 32 ≤ N2) (e : UtfType) (wo : Nat)
    (hwo : wo = 8 ∨ wo = 16 ∨ wo = 32) (pol : Policy) (mark : Option (List Nat)) (t : List Nat)
    (ht : ∀ c ∈ t, IsScalar c)
    (h16 : e = .utf16le → ¬ [0, 0].isPrefixOf (encBytes e (encs e.width t)))
    (fuel : Nat) (hfuel : (streamBytes e true t).length + 2 ≤ fuel) :
    (Reader.readAll fuel (Reader.mk' N1 wo pol mark (streamBytes e true t)) [] []).2
      = (Reader.readAll fuel (Reader.mk' N2 wo pol mark (streamBytes e true t)) [] []).2 ∧
    (Reader.readAll fuel (Reader.mk' N1 wo pol mark (streamBytes e true t)) [] []).1.getLast?
      = (Reader.readAll fuel (Reader.mk' N2 wo pol mark (streamBytes e true t)) [] []).1.getLast? := by
  obtain ⟨rs1, ⟨n1, hr1⟩, e1⟩ := read_lossless_bom N1 h1 e wo hwo pol mark t ht h16 fuel hfuel
  obtain ⟨rs2, ⟨n2, hr2⟩, e2⟩ := read_lossless_bom N2 h2 e wo hwo pol mark t ht h16 fuel hfuel
  rw [e1, e2, hr1, hr2]
  simp

/-- the `detect_*_nobom` theorems on the first chunk of a Spec-serialised text -/
theorem detect_nobom_chunk (N : Nat) (hN : 4 ≤ N) (e : UtfType) (c : Nat) (ts : List Nat)
    (hc : 0 < c ∧ c < 0x80) (hts : ∀ x ∈ ts, IsScalar x ∧ x ≠ 0) :
    detect ((encBytes e (encs e.width (c :: ts))).take N) = (e, 0) := by
  -- with `N = m + 4`, `take` passes over the (at most four) bytes of `c`
  obtain ⟨m, rfl⟩ : ∃ m, N = m + 4 := ⟨N - 4, by omega⟩
  rw [encs_cons, encBytes_append, encBytes_ascii e hc.2]
  cases e
  · rw [show UtfType.utf8.width = 8 from rfl,
      encBytes_utf8 _ (encs_lt (Or.inl rfl) fun x hx => (hts x hx).1)]
    exact detect_utf8_nobom c _ hc fun b hb => encs8_bytes_pos ts hts b (List.mem_of_mem_take hb)
  · show detect (c :: 0 :: (encBytes .utf16le (encs 16 ts)).take (m + 2)) = _
    exact detect_utf16le_nobom c _ hc fun a b r h =>
      utf16_head_bytes_ne_zero _ (Or.inl rfl) ts hts a b r (h ▸ List.take_prefix ..)
  · show detect (0 :: c :: (encBytes .utf16be (encs 16 ts)).take (m + 2)) = _
    exact detect_utf16be_nobom c _ hc fun a b r h =>
      utf16_head_bytes_ne_zero _ (Or.inr rfl) ts hts a b r (h ▸ List.take_prefix ..)
  · exact detect_utf32le_nobom c _ hc
  · exact detect_utf32be_nobom c _ hc

/-- **C13, main clause, BOM-less streams.** Same statement without BOM, for the texts for which
    BOM-less detection is required at all (DESIGN.md §4.2 / `StreamOracle.mustDetect`): the text
    starts with an ASCII character other than NUL and contains no U+0000 (`ambiguous` shows that
    this restriction is forced). -/
theorem read_lossless_nobom (N : Nat) (hN : 32 ≤ N) (e : UtfType) (wo : Nat) (hwo : wo = 8 ∨ wo = 16 ∨ wo = 32)
    (pol : Policy) (mark : Option (List Nat)) (c : Nat) (ts : List Nat)
    (hc : 0 < c ∧ c < 0x80) (hts : ∀ x ∈ ts, IsScalar x ∧ x ≠ 0)
    (fuel : Nat) (hfuel : (streamBytes e false (c :: ts)).length + 2 ≤ fuel) :
    ReadsBack N wo pol mark (streamBytes e false (c :: ts)) (c :: ts) fuel := by
  have hsc : ∀ x ∈ c :: ts, IsScalar x := by
    intro x hx; simp at hx; rcases hx with rfl | hx
    · exact ⟨by omega, by omega⟩
    · exact (hts x hx).1
  have hne : encBytes e (encs e.width (c :: ts)) ≠ [] := fun h => by
    have := encs_eq_nil _ _ (encBytes_eq_nil e _ h); simp at this
  simp only [streamBytes, Bool.false_eq_true, if_false, List.nil_append] at hfuel ⊢
  have := reads_back_of_detect N hN e wo hwo pol mark (c :: ts) hsc [] (by simp) (by simpa using hne)
    (by simpa using detect_nobom_chunk N (by omega) e c ts hc hts) fuel (by simpa using hfuel)
  simpa using this

/-- the same, with the hypothesis phrased with the oracle's own predicate `mustDetect` -/
theorem read_lossless_nobom' (N : Nat) (hN : 32 ≤ N) (e : UtfType) (wo : Nat) (hwo : wo = 8 ∨ wo = 16 ∨ wo = 32)
    (pol : Policy) (mark : Option (List Nat)) (t : List Nat) (ht : ∀ c ∈ t, IsScalar c)
    (hm : mustDetect false t = true) :
    ReadsBack N wo pol mark (streamBytes e false t) t ((streamBytes e false t).length + 2) := by
  cases t with
  | nil => simp [mustDetect] at hm
  | cons c ts =>
    simp only [mustDetect, Bool.false_or, Bool.and_eq_true, decide_eq_true_eq, Bool.not_eq_true',
      List.contains_eq_mem, decide_eq_false_iff_not, List.mem_cons, not_or] at hm
    obtain ⟨hc, _, h0⟩ := hm
    refine read_lossless_nobom N hN e wo hwo pol mark c ts hc (fun x hx => ⟨ht x (by simp [hx]), ?_⟩) _
      (Nat.le_refl _)
    intro hx0; subst hx0; exact h0 hx

/-- the empty stream (empty text, no BOM): `EndFile` at once, nothing decoded -/
theorem read_empty (N : Nat) (hN : 32 ≤ N) (wo : Nat) (pol : Policy) (mark : Option (List Nat)) (fuel : Nat)
    (hfuel : 1 ≤ fuel) :
    Reader.readAll fuel (Reader.mk' N wo pol mark []) [] [] = ([.endFile], [], false) := by
  obtain ⟨f, rfl⟩ : ∃ f, fuel = f + 1 := ⟨fuel - 1, by omega⟩
  have h0 : ¬ (0 = N) := by omega
  have h1 : ¬ (N = 0) := by omega
  have h2 : 0 < N := by omega
  simp [Reader.readAll, Reader.readChunk, Reader.mk', Reader.readNext, IStream.read, Reader.isEnd, h0, h1, h2]

/-- the bytes a writer session leaves in the stream (`session`, Props/C13Writer.lean) are `streamBytes` of the
    concatenated text -/
theorem session_bytes (e : UtfType) (addBom : Bool) (wpol : Policy) (wi : Nat) (hwi : wi = 8 ∨ wi = 16 ∨ wi = 32)
    (texts : List (List Nat)) (ht : ∀ t ∈ texts, ∀ c ∈ t, IsScalar c) :
    session e addBom wpol wi (texts.map (encs wi)) = streamBytes e addBom texts.flatten := by
  rw [writer_session e addBom wpol wi hwi texts ht, ← bom_table e]
  simp only [streamBytes]
  congr 1
  induction texts with
  | nil => simp
  | cons p ps ih =>
    rw [List.flatMap_cons, List.flatten_cons, encs_append, encBytes_append, ih (fun q hq => ht q (by simp [hq])),
      stdBytes_eq_encBytes]

/-- **C13, main clause end to end (model writer → model reader).** A text written in parts through
    `CEncodedStreamWriter` (any encoding, any source width, either writer policy, with BOM) and read through
    `CEncodedStreamReader` (any chunk size ≥ 32, any target width, policy, mark) comes back as the same text. -/
theorem write_then_read (N : Nat) (hN : 32 ≤ N) (e : UtfType) (wi wo : Nat)
    (hwi : wi = 8 ∨ wi = 16 ∨ wi = 32) (hwo : wo = 8 ∨ wo = 16 ∨ wo = 32)
    (wpol pol : Policy) (mark : Option (List Nat)) (texts : List (List Nat))
    (ht : ∀ t ∈ texts, ∀ c ∈ t, IsScalar c) (h0 : e = .utf16le → texts.flatten.head? ≠ some 0) :
    ReadsBack N wo pol mark (session e true wpol wi (texts.map (encs wi))) texts.flatten
      ((session e true wpol wi (texts.map (encs wi))).length + 2) := by
  have hf : ∀ c ∈ texts.flatten, IsScalar c := by
    intro c hc
    obtain ⟨p, hp1, hp2⟩ := List.mem_flatten.mp hc
    exact ht p hp1 c hp2
  rw [session_bytes e true wpol wi hwi texts ht]
  exact read_lossless_bom' N hN e wo hwo pol mark _ hf h0

/-- 1-, 2-, 3- and 4-byte characters (and all range boundaries); 48 bytes in UTF-8, 46 in UTF-16,
    72 in UTF-32 — longer than one 32-byte chunk in every encoding; with the UTF-8 BOM the first
    chunk boundary (N = 32) falls inside the 3-byte character U+E000, with a UTF-16 BOM inside the
    surrogate pair of U+10000 (whose high surrogate D800 is in the range `copy16` refuses at the end
    of a chunk). -/
def sample : List Nat :=
  [0x41, 0xE9, 0x20AC, 0x1F600, 0x7A, 0x10FFFF, 0x800, 0x7FF, 0xFFFD, 0x24, 0xD7FF, 0xE000, 0x10000, 0x61,
   0x1F601, 0x416, 0x4E2D, 0x1D11E]

theorem sample_scalar : ∀ c ∈ sample, IsScalar c := by decide

/-- hypotheses of `read_lossless_bom` are satisfiable for every encoding on a non-trivial text -/
example (e : UtfType) : ReadsBack 32 16 .throwError none (streamBytes e true sample) sample
    ((streamBytes e true sample).length + 2) :=
  read_lossless_bom' 32 (by decide) e 16 (by simp) .throwError none sample sample_scalar (fun _ => by decide)

/-- … and those of `read_lossless_nobom` -/
example (e : UtfType) : ReadsBack 36 8 .skip (some [0x3F]) (streamBytes e false sample) sample
    ((streamBytes e false sample).length + 2) :=
  read_lossless_nobom' 36 (by decide) e 8 (by simp) .skip (some [0x3F]) sample sample_scalar (by decide)

/-- the side condition of `read_lossless_bom` is needed: U+0000 first in a UTF-16LE stream with BOM
    is detected as UTF-32LE (the bytes ARE a UTF-32LE BOM) -/
example : (Reader.mk' 32 16 .skip none (streamBytes .utf16le true [0, 0x41])).utf = .utf32le := by decide

/-- straddling really happens in the sample: byte 32 of the UTF-8 stream with BOM (first byte of
    the second chunk) is a continuation byte -/
example : (streamBytes .utf8 true sample).getD 32 0 = 0x80 := by decide

/-- … and bytes 30–33 of the UTF-16LE stream with BOM are the surrogate pair D800 DC00, cut in the middle -/
example : ((streamBytes .utf16le true sample).drop 30).take 4 = [0x00, 0xD8, 0x00, 0xDC] := by decide

/-- hypotheses of `write_then_read` are satisfiable (three `Write` calls, one of them empty) -/
example (e : UtfType) :
    ReadsBack 32 8 .skip none (session e true .throwError 32 ([sample, [], sample].map (encs 32)))
      [sample, [], sample].flatten ((session e true .throwError 32 ([sample, [], sample].map (encs 32))).length + 2) :=
  write_then_read 32 (by decide) e 32 8 (by simp) (by simp) .throwError .skip none [sample, [], sample]
    (by decide) (fun _ => by decide)

/- evaluated instances (model run, compiled evaluation — a check of the theorem statements, not a
   proof): all five encodings × three target widths × several chunk sizes, with and without BOM -/
def allEnc : List UtfType := [.utf8, .utf16le, .utf16be, .utf32le, .utf32be]

def checkInstance (N wo : Nat) (e : UtfType) (bom : Bool) (t : List Nat) : Bool :=
  let bytes := streamBytes e bom t
  let (rs, text, hang) := Reader.readAll (bytes.length + 2) (Reader.mk' N wo .throwError none bytes) [] []
  text == encs wo t && !hang && rs.getLast? == some .endFile && rs.dropLast.all (· == .success)

#guard allEnc.all fun e => [8, 16, 32].all fun wo => [32, 33, 34, 35, 36, 40, 47, 48, 64, 4096].all fun N =>
  [true, false].all fun bom => checkInstance N wo e bom sample

#guard allEnc.all fun e => [8, 16, 32].all fun wo => [32, 36].all fun N =>
  checkInstance N wo e true (sample ++ sample ++ sample ++ [0x1F600, 0x1F600, 0x1F600, 0x10FFFF] ++ sample)

end BSVerif.Props.C13
