/-
  C13, last sentence: "The writer emits exactly the configured encoding and BOM."

  Theorems about the MODEL of `CEncodedStreamWriter` (Utf/Stream.lean: `writerOpen`, `writerWrite`):
  for every scalar list, every source width, every one of the five target encodings and both policies, one `Write`
  call appends exactly the standard encoding of the text in the configured byte order; the constructor writes
  exactly the BOM of the standard (or nothing); a rejected `Write` contributes nothing, so a whole session writes
  BOM ++ the encodings of the accepted texts.
-/
import BSVerif.Utf.EncBytes
import BSVerif.Utf.StreamOracle
import BSVerif.Props.C11

namespace BSVerif.Props.C13
open BSVerif BSVerif.Utf BSVerif.Utf.Spec BSVerif.Utf.StreamOracle BSVerif.Props.C11

/-- the byte image the standard prescribes for units of width `e.width` in `e`'s byte order -/
def stdBytes (e : UtfType) (us : List Nat) : List Nat :=
  if e.isBE then bytesBE e.width us else bytesLE e.width us

/-- `stdBytes` is written out with the Spec serialisations so that the writer theorems read without the lemma
    modules; it is their `encBytes` -/
theorem stdBytes_eq_encBytes (e : UtfType) (us : List Nat) : stdBytes e us = encBytes e us := rfl

theorem bytesOfUnits_eq_LE (w : Nat) (us : List Nat) : bytesOfUnits w us = bytesLE w us := rfl

/-- **C13 (writer, one call).** `Write` of a well-formed text in any source width appends exactly the standard encoding of
    that text in the configured encoding and byte order, and reports Success — for all five encodings and both policies. -/
theorem writer_emits_standard_encoding (e : UtfType) (pol : Policy) (wi : Nat) (hwi : Width wi)
    (t : List Nat) (ht : AllScalar t) :
    writerWrite e pol wi (encs wi t) = (.success, stdBytes e (encs e.width t)) := by
  unfold writerWrite
  by_cases h8 : wi = 8 ∧ e = .utf8
  · obtain ⟨rfl, rfl⟩ := h8
    rw [if_pos ⟨rfl, rfl⟩, stdBytes_eq_encBytes, show UtfType.utf8.width = 8 from rfl,
      encBytes_utf8 _ (encs_lt (Or.inl rfl) ht)]
  · rw [if_neg h8]
    cases e
    · have hwi' : wi = 16 ∨ wi = 32 := hwi.resolve_left fun h => h8 ⟨h, rfl⟩
      simp [UtfType.width, utf8Encode_valid wi hwi' t ht, stdBytes, UtfType.isBE, bytesOfUnits_eq_LE]
    · simp [UtfType.width, UtfType.isBE, encodeEndian, utf16Encode_valid wi hwi t ht, stdBytes, bytesOfUnits_eq_LE]
    · simp [UtfType.width, UtfType.isBE, encodeEndian, utf16Encode_valid wi hwi t ht, stdBytes, bytesOfUnits_eq_LE,
        bytesLE_map_reverse]
    · simp [UtfType.width, UtfType.isBE, encodeEndian, utf32Encode_valid wi hwi t ht, stdBytes, bytesOfUnits_eq_LE]
    · simp [UtfType.width, UtfType.isBE, encodeEndian, utf32Encode_valid wi hwi t ht, stdBytes, bytesOfUnits_eq_LE,
        bytesLE_map_reverse]

theorem writer_bom (e : UtfType) (addBom : Bool) :
    writerOpen e addBom = if addBom then specBom e else [] := by
  cases e <;> cases addBom <;> decide

/-- a rejected `Write` leaves nothing in the stream (whatever was transcoded before the error is discarded) -/
theorem rejected_write_emits_nothing (e : UtfType) (pol : Policy) (wi : Nat) (s : List Nat)
    (h : (writerWrite e pol wi s).1 ≠ .success) : (writerWrite e pol wi s).2 = [] := by
  unfold writerWrite at *
  by_cases h8 : wi = 8 ∧ e = .utf8
  · rw [if_pos h8] at h; exact absurd rfl h
  · rw [if_neg h8] at h ⊢
    dsimp only at h ⊢
    generalize (if e.width = 8 then utf8Encode wi pol _ s [] else encodeEndian e.width e.isBE wi pol _ s []) = res at h ⊢
    by_cases hc : res.code = .success
    · rw [if_pos hc] at h; exact absurd rfl h
    · rw [if_neg hc]

/-- a whole writer session: the bytes in the stream after the constructor and a list of `Write` calls -/
def session (e : UtfType) (addBom : Bool) (pol : Policy) (wi : Nat) (parts : List (List Nat)) : List Nat :=
  parts.foldl (fun acc s => acc ++ (writerWrite e pol wi s).2) (writerOpen e addBom)

/-- **C13 (writer, whole session).** After any number of `Write` calls with well-formed texts the stream holds exactly
    BOM? ++ the standard encoding of the concatenated text. -/
theorem writer_session (e : UtfType) (addBom : Bool) (pol : Policy) (wi : Nat) (hwi : Width wi)
    (texts : List (List Nat)) (ht : ∀ t ∈ texts, AllScalar t) :
    session e addBom pol wi (texts.map (encs wi))
      = (if addBom then specBom e else []) ++ texts.flatMap (fun t => stdBytes e (encs e.width t)) := by
  unfold session
  rw [writer_bom]
  generalize (if addBom then specBom e else []) = init
  induction texts generalizing init with
  | nil => simp
  | cons t ts ih =>
    rw [List.map_cons, List.foldl_cons, writer_emits_standard_encoding e pol wi hwi t (ht t (by simp)),
      ih (fun t' h => ht t' (by simp [h])), List.flatMap_cons, List.append_assoc]

-- non-vacuity: a text with 1-, 2-, 3- and 4-byte characters, UTF-16 source, UTF-32BE target with BOM
example : AllScalar [0x41, 0xE9, 0x20AC, 0x1F600] ∧ Width 16 ∧
    (specBom .utf32be ++ stdBytes .utf32be (encs 32 [0x41, 0xE9, 0x20AC, 0x1F600])
      = [0, 0, 0xFE, 0xFF, 0, 0, 0, 0x41, 0, 0, 0, 0xE9, 0, 0, 0x20, 0xAC, 0, 1, 0xF6, 0]) := by
  refine ⟨by unfold AllScalar; decide, Or.inr (Or.inl rfl), by decide⟩

end BSVerif.Props.C13
