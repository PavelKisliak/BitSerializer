/-
  C14 — ISO-8601 text of times and durations is calendar-correct and parses back exactly.

  The calendar algorithm is proved for ALL integer day numbers; the Model functions (the code with its int64/uint32
  arithmetic) for the day numbers and years inside the explicit bounds of each statement. Printing and the round trip
  are proved at the level of the calendar fields (not through the text itself, PrintIsoUtc ↔ ParseIsoUtc), for the
  int64 counts of the predicate `Printable`; the claim for EVERY representable time point (`PrintTpTotal`) is
  refuted by literal witnesses, the two recorded findings.

  The notions of the statements: `ValidDate`, `dayNumber` (Chrono/Calendar), `civilOf` (Chrono/Hinnant), `Period.inTable`
  (the periods of the harness, Chrono/IntRep), `Period.perDay` (Chrono/Durations), `Printable` (Chrono/PrintTp).
-/
import BSVerif.Chrono.Lemmas
import BSVerif.Chrono.Fractions
import BSVerif.Chrono.PrintTp
import BSVerif.Chrono.RoundTrip

namespace BSVerif.Props.C14
open BSVerif.Chrono BSVerif.Chrono.Calendar BSVerif.Chrono.Hinnant BSVerif.Generated.Chrono

/-- **Calendar algorithm, all integers.** For every integer day number `z` the year/month/day computed by the
    era / year-of-era / day-of-year formulas of the code is a valid proleptic-Gregorian date and its closed-form day
    number is `z`. -/
theorem calendar_algorithm_correct (z : Int) :
    ValidDate (civilOf z).year (civilOf z).mon (civilOf z).day ∧
    dayNumber (civilOf z).year (civilOf z).mon (civilOf z).day = z :=
  civilOf_correct z

/-- **Print side (days → civil) of the code is calendar-correct.** -/
theorem civil_from_days_correct {z : Int} (h1 : -9223372036854775808 ≤ z) (h2 : z ≤ 9223372036854775807 - 719468)
    {c : Civil} (h : civilFromDays z = .ok c) :
    ValidDate c.year c.mon c.day ∧ dayNumber c.year c.mon c.day = z := by
  rw [civilFromDays_eq h1 h2] at h
  injection h with h; subst h
  exact civilOf_correct z

/-- … and it is total there: no undefined behaviour, no exception. -/
theorem civil_from_days_total {z : Int} (h1 : -9223372036854775808 ≤ z) (h2 : z ≤ 9223372036854775807 - 719468) :
    ∃ c, civilFromDays z = .ok c :=
  ⟨_, civilFromDays_eq h1 h2⟩

example : ∃ z : Int, -9223372036854775808 ≤ z ∧ z ≤ 9223372036854775807 - 719468 := ⟨0, by omega, by omega⟩
example : civilFromDays 11016 = .ok ⟨2000, 2, 29⟩ := by decide +kernel

/-- **Parse side (civil → days) of the code is calendar-correct.** -/
theorem days_from_civil_correct {year mon day : Int} (hy1 : -25252000000000000 ≤ year) (hy2 : year ≤ 25252000000000000)
    (hm1 : 1 ≤ mon) (hm2 : mon ≤ 12) (hd1 : 1 ≤ day) (hd2 : day ≤ 31) :
    daysFromCivil year mon day = .ok (dayNumber year mon.toNat day.toNat) :=
  daysFromCivil_eq hy1 hy2 hm1 hm2 hd1 hd2

example : daysFromCivil 2000 2 29 = .ok 11016 := by decide +kernel

/-- **The two directions are inverse on the Model** (what makes print → parse return the same day). -/
theorem days_from_civil_inverse {z : Int} (h1 : -9223000000000000000 ≤ z) (h2 : z ≤ 9223000000000000000) {c : Civil}
    (h : civilFromDays z = .ok c) : daysFromCivil c.year c.mon c.day = .ok z :=
  daysFromCivil_civilFromDays h1 h2 h

/-- the named table `DaysInMonth` of the current tree (generated) holds the month lengths of a leap year -/
theorem daysInMonth_table : ∀ m, m < 12 → daysInMonth.getD m 0 = monthLen 2000 (m + 1) := daysInMonth_entry

/-- the named buffer size `UtcBufSize` of the current tree (generated) is above 39. The 39 is counted by hand, not
    derived from `printIsoUtc`: sign, 17 year digits, `-MM-DDThh:mm:ss`, `Z` = 34 characters; sub-second precisions:
    ≤ 12 year digits + 10 fraction characters = 39. -/
theorem utcBuf_sufficient : 39 < utcBufSize := by decide

/-- **Fractions are exact**: `10^18 / (10^(n+9) / v) = v·10^(9−n)` for every digit run `v < 10^n`, `n ≤ 9`. -/
theorem fraction_scaling_exact {n v : Nat} (hn : n ≤ 9) (hv0 : 0 < v) (hv : v < 10 ^ n) :
    1000000000 * 1000000000 / (10 ^ n * 1000000000 / v) = v * 10 ^ (9 - n) :=
  BSVerif.Chrono.fraction_scaling_exact hn hv0 hv

example : 1000000000 * 1000000000 / (10 ^ 3 * 1000000000 / 925) = 925 * 10 ^ (9 - 3) := by decide

/-- **Printing is calendar-correct (partial form).** For every precision of the table and every int64 count that is
    `Printable` (the midnight before the instant is representable; for day precision the count is at least 719468 below
    the maximum — i.e. everything outside the two recorded classes), `To(time_point, string&)` performs no undefined
    behaviour and calls `PrintIsoUtc` with exactly: a valid proleptic-Gregorian date whose closed-form day number is
    `⌊c / perDay⌋`, the hour/minute/second of `c mod perDay`, and (sub-second precisions) the fraction `c mod den`. -/
theorem print_tp_correct {p : Period} (hp : p.inTable) {c : Int} (h : Printable p c) :
    ∃ (y : Int) (m d : Nat), ValidDate y m d ∧ dayNumber y m d = c / (p.perDay : Int) ∧
      printTp i64 p c =
        printIsoUtc utcBufSize y m d
          (c % (p.perDay : Int) * p.num / p.den / 3600) (c % (p.perDay : Int) * p.num / p.den % 3600 / 60)
          (c % (p.perDay : Int) * p.num / p.den % 60)
          (if p.den > 1 then some (c % (p.den : Int), p.den) else none) := by
  obtain ⟨hv, hd⟩ := civilOf_correct (c / (p.perDay : Int))
  exact ⟨_, _, _, hv, hd, print_tp_fields hp h⟩

/-- **Round trip of the fields (partial form).** For the same counts (and day numbers inside the calendar range of the
    parse side) the parse-side conversion of exactly those fields — fraction scaled to nanoseconds as the lexer
    delivers it — returns the original count. -/
theorem print_parse_fields_roundtrip {p : Period} (hp : p.inTable) {c : Int} (h : Printable p c)
    (hcal : -9223000000000000000 ≤ c / (p.perDay : Int) ∧ c / (p.perDay : Int) ≤ 9223000000000000000) :
    tpFromParts i64 p
      ⟨(civilOf (c / (p.perDay : Int))).year, (civilOf (c / (p.perDay : Int))).mon, (civilOf (c / (p.perDay : Int))).day,
       c % (p.perDay : Int) * p.num / p.den / 3600, c % (p.perDay : Int) * p.num / p.den % 3600 / 60, c % (p.perDay : Int) * p.num / p.den % 60,
       if p.den > 1 then some (c % (p.den : Int) * ((1000000000 / p.den : Nat) : Int)) else none⟩ = .ok c :=
  fields_roundtrip hp h hcal

example : Printable pNano 0 := by decide +kernel
example : Printable pNano 9223372036854775807 := by decide +kernel
example : ¬ Printable pNano (-9223372036854775808) := by decide +kernel
example : ¬ Printable pDay 9223372036854775807 := by decide +kernel

/-- the FULL C14 claim about printing: every representable time point of every signed representation and every
    precision of the table prints (no exception, no undefined behaviour) -/
def PrintTpTotal : Prop :=
  ∀ (r : Rep) (p : Period) (c : Int), r.inTable → r.signed = true → p.inTable → r.fits c = true → ∃ t, printTp r p c = .ok t

/-- literal witnesses of the two recorded findings -/
theorem print_tp_no_ub_witnesses :
    printTp i64 pNano (-9223372036854775808) = .ub ubOverflow ∧          -- time_point<nanoseconds>::min()
    printTp i64 pSec (-9223372036854775808) = .ub ubOverflow ∧           -- time_point<seconds>::min()
    printTp i32 pSec (-2147483648) = .ub ubOverflow ∧                    -- 32-bit seconds
    printTp i64 pDay 9223372036854775807 = .ub ubOverflow := by          -- days + 719468
  refine ⟨by decide +kernel, by decide +kernel, by decide +kernel, by decide +kernel⟩

/-- **the full claim is refuted by the unchanged code** (finding `chrono-first-day-of-range`) -/
theorem print_tp_total_refuted : ¬ PrintTpTotal := by
  intro h
  obtain ⟨t, ht⟩ := h i64 pNano (-9223372036854775808) (Or.inl rfl) rfl (Or.inl rfl) (by decide)
  rw [print_tp_no_ub_witnesses.1] at ht
  exact absurd ht (by simp)

end BSVerif.Props.C14
