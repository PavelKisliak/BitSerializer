/-
  C15 — ISO-8601 parsing either yields the denoted value or throws; it never wraps.

  For ALL counts and all texts, every target representation of the table (int64, int32, uint64, int8), every
  precision (ns … days) and both 64-bit source representations. The claim that out_of_range is raised ONLY when the
  value does not fit (`OutOfRangeOnlyWhenUnfit`) is refuted by a literal witness, a recorded finding.

  The predicates of the statements: `Rep.inTable`, `Rep.is64`, `Period.inTable`, `Period.isSource` (the instantiations of
  the harness) are defined in Chrono/IntRep, `ValidDate` and `dayNumber` in Chrono/Calendar.
-/
import BSVerif.Chrono.ParseTp
import BSVerif.Chrono.Fractions
import BSVerif.Chrono.LiteralDivisor  -- the literal-divisor scripts are built along with C15; nothing below uses them

namespace BSVerif.Props.C15
open BSVerif.Chrono BSVerif.Chrono.Calendar BSVerif.Generated.Chrono

/-- **SafeDurationCast contract** (all counts; every ratio between a source period s/min/h/d/week and a target
    period ns…d; targets int64/int32/uint64/int8; sources int64/uint64). -/
theorem safeDurationCast_spec {rt rs : Rep} (hrt : rt.inTable) (hrs : rs.is64) {pt ps : Period} (hpt : pt.inTable)
    (hps : ps.isSource) {c : Int} (hc : rs.fits c = true) :
    safeDurationCast rt pt rs ps c =
      if (c * (ratioDiv ps pt).1) % (ratioDiv ps pt).2 = 0 ∧ rt.fits (c * (ratioDiv ps pt).1 / (ratioDiv ps pt).2)
      then .ok (c * (ratioDiv ps pt).1 / (ratioDiv ps pt).2) else .err .outOfRange :=
  BSVerif.Chrono.safeDurationCast_spec hrt hrs hpt hps hc

example : safeDurationCast i8 pMilli i64 pSec 1 = .err .outOfRange := by decide +kernel        -- 1000 ms does not fit int8
example : safeDurationCast u64 pMin i64 pSec (-16) = .err .outOfRange := by decide +kernel     -- negative, and no whole number of minutes
example : safeDurationCast i64 pHour u64 pSec 18446744073709551615 = .err .outOfRange := by decide +kernel  -- no whole number of hours
example : safeDurationCast i32 pDay i64 pSec 172800 = .ok 2 := by decide +kernel

/-- **SafeAddDuration(time_point&, int64 duration) contract.** -/
theorem safeAddTp_spec {r : Rep} (hr : r.inTable) {p ps : Period} (hp : p.inTable) (hps : ps.isSource ∨ ps = p)
    {tp src : Int} (htp : r.fits tp = true) (hsrc : i64.fits src = true) :
    safeAddTp r p tp i64 ps src =
      if src = 0 then .ok tp else
      let nd := if ps = p then (1, 1) else ratioDiv ps p
      if (src * nd.1) % nd.2 = 0 ∧ (commonRep3 i64 r).fits (src * nd.1 / nd.2) ∧ r.fits (tp + src * nd.1 / nd.2)
      then .ok (tp + src * nd.1 / nd.2) else .err .outOfRange :=
  BSVerif.Chrono.safeAddTp_spec hr hp hps htp hsrc

/-- **SafeAddDuration(duration&, same type) contract.** -/
theorem safeAddDur_spec_same {r : Rep} (hr : r.inTable) (p : Period) {target src : Int} (ht : r.fits target = true)
    (hs : r.fits src = true) :
    safeAddDur r p target r p src =
      if src = 0 then .ok target else if r.fits (target + src) then .ok (target + src) else .err .outOfRange :=
  safeAddDur_same hr.isTarget.bits.1 p ht hs

/-- **SafeAddDuration(duration&, int64 rounded fraction) contract** (the repaired code: the fraction is rounded in
    64 bits, so a fraction that does not fit a narrow target is out_of_range, not a wrapped value). -/
theorem safeAddDur_spec_i64 {r : Rep} (hr : r.inTable) {p : Period} (hp : p.inTable) {target src : Int}
    (ht : r.fits target = true) (hs : i64.fits src = true) :
    safeAddDur r p target i64 p src =
      if src = 0 then .ok target else if r.fits src ∧ r.fits (target + src) then .ok (target + src) else .err .outOfRange :=
  safeAddDur_i64 hr.isTarget hp.pos ht hs

example : safeAddDur i8 pMilli 0 i64 pMilli 500 = .err .outOfRange := by decide +kernel   -- PT0.5S into duration<int8, milli>

/-- **ParseSecondFractions is exact.** -/
theorem parse_fractions_exact {s : List Nat} {ns : Int} {rest : List Nat} (h : parseFractions s = some (ns, rest)) :
    ∃ v n : Nat, fromChars u32 s = .ok v n rest ∧ ((v = 0 ∧ ns = 0) ∨ (0 < v ∧ n ≤ 9 ∧ ns = ((v * 10 ^ (9 - n) : Nat) : Int))) ∧
      0 ≤ ns ∧ ns < 1000000000 :=
  parseFractions_exact h

example : parseFractions [57, 50, 53, 90] = some (925000000, [90]) := by decide +kernel     -- ".925Z"

/-- **Field ranges.** Every text that `ParseIsoUtc` accepts has month 1…12, a day that exists in that month of that
    year (proleptic Gregorian; 29 February only in leap years), hour ≤ 23, minute ≤ 59, second ≤ 59. -/
theorem parse_tp_fields_valid {s : List Nat} {u : Parts} (h : parseIsoUtc8 s = .ok u) :
    ValidDate u.year u.mon.toNat u.day.toNat ∧ 1 ≤ u.mon ∧ u.mon ≤ 12 ∧ 1 ≤ u.day ∧ u.day ≤ 31 ∧
    0 ≤ u.hour ∧ u.hour ≤ 23 ∧ 0 ≤ u.min ∧ u.min ≤ 59 ∧ 0 ≤ u.sec ∧ u.sec ≤ 59 :=
  parseIsoUtc8_valid h

-- "2023-02-29T00:00:00Z" is rejected, "2024-02-29T00:00:00Z" is accepted
example : parseIsoUtc8 [50,48,50,51,45,48,50,45,50,57,84,48,48,58,48,48,58,48,48,90] = .err .invalidArgument := by decide +kernel
example : parseIsoUtc8 [50,48,50,52,45,48,50,45,50,57,84,48,48,58,48,48,58,48,48,90] = .ok ⟨2024, 2, 29, 0, 0, 0, none⟩ := by decide +kernel

/-- **Never wraps.** If the conversion of accepted fields (no fraction) to `time_point<…, duration<r, p>>` succeeds,
    the count is inside the representation `r` and denotes EXACTLY the instant of the text:
    `count · num = (dayNumber·86400 + h·3600 + m·60 + s) · den`. Nothing is said of a conversion that does not succeed
    (`Out` has `err` and `ub` besides `ok`). -/
theorem parse_tp_never_wraps {r : Rep} (hr : r.inTable) {p : Period} (hp : p.inTable) {s : List Nat} {u : Parts}
    (hparse : parseIsoUtc8 s = .ok u) (hfrac : u.frac = none)
    (hy1 : -25252000000000000 ≤ u.year) (hy2 : u.year ≤ 25252000000000000)
    {v : Int} (h : tpFromParts r p u = .ok v) :
    r.fits v = true ∧
    v * p.num = (dayNumber u.year u.mon.toNat u.day.toNat * 86400 + (u.hour * 3600 + u.min * 60 + u.sec)) * p.den := by
  obtain ⟨-, m1, m2, d1, d2, h1, h2, mi1, mi2, s1, s2⟩ := parseIsoUtc8_valid hparse
  exact tpFromParts_exact hr hp hfrac hy1 hy2 m1 m2 d1 d2 ⟨h1, h2⟩ ⟨mi1, mi2⟩ ⟨s1, s2⟩ h

/-- durations with years or months are outside the grammar: invalid_argument (date section: 'Y', 'M'; and any other
    designator that is not W/D resp. H/M/S) -/
theorem parse_dur_rejects_years_months (r : Rep) (p : Period) (rs : Rep) (value : Int) (sym : Nat)
    (h : sym = 89 ∨ sym = 77) : transformToDuration r p rs value sym true = .err .invalidArgument := by
  rcases h with rfl | rfl <;> simp [transformToDuration]

theorem parse_dur_rejects_unknown_designator (r : Rep) (p : Period) (rs : Rep) (value : Int) (sym : Nat) (isDate : Bool)
    (h : sym ≠ 87 ∧ sym ≠ 68 ∧ sym ≠ 72 ∧ sym ≠ 77 ∧ sym ≠ 83) :
    transformToDuration r p rs value sym isDate = .err .invalidArgument := by
  obtain ⟨a, b, c, d, e⟩ := h
  cases isDate <;> simp [transformToDuration, a, b, c, d, e]

/-- the FULL C15 claim for whole-second texts: out_of_range is raised ONLY when the denoted count does not fit -/
def OutOfRangeOnlyWhenUnfit : Prop :=
  ∀ (r : Rep) (p : Period) (u : Parts) (c : Int), r.inTable → p.inTable → u.frac = none →
    ValidDate u.year u.mon.toNat u.day.toNat → 0 ≤ u.hour ∧ u.hour ≤ 23 ∧ 0 ≤ u.min ∧ u.min ≤ 59 ∧ 0 ≤ u.sec ∧ u.sec ≤ 59 →
    c * p.num = (dayNumber u.year u.mon.toNat u.day.toNat * 86400 + (u.hour * 3600 + u.min * 60 + u.sec)) * p.den →
    r.fits c = true → tpFromParts r p u = .ok c

/-- **refuted by the unchanged code** (finding `chrono-first-day-of-range`): 1677-09-21T00:12:44Z is
    −9223372036 s = −9223372036000000000 ns, inside int64 nanoseconds, yet the conversion raises out_of_range -/
theorem first_day_refuted : ¬ OutOfRangeOnlyWhenUnfit := by
  intro h
  have := h i64 pNano ⟨1677, 9, 21, 0, 12, 44, none⟩ (-9223372036000000000) (Or.inl rfl) (Or.inl rfl) rfl
    (validDate_iff.mp (by decide +kernel)) (by decide) (by decide +kernel) (by decide +kernel)
  have e : tpFromParts i64 pNano ⟨1677, 9, 21, 0, 12, 44, none⟩ = .err .outOfRange := by decide +kernel
  rw [e] at this
  exact absurd this (by simp)

end BSVerif.Props.C15
