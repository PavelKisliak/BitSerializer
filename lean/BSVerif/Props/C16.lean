/-
  C16 — Number/text conversion is lossless; numeric parsing is total and range-checked.

  Quantifiers: every integer type of 8/16/32/64 bits and either signedness, every value of it;
  every input string (list of code units of any length, any content) in 8-, 16- and 32-bit code
  units (wchar_t = 32-bit). Floating-point text is outside the proved part (it is the libstdc++
  assumption, tested through the exact-arithmetic reference BSVerif/Num/FloatText.lean).
-/
import BSVerif.Num.TextLemmas
import BSVerif.Num.WideLemmas
import BSVerif.Generated.NumConsts

namespace BSVerif.Props.C16
open BSVerif.Num

/-- `to_chars` output is the canonical decimal text of the Spec -/
theorem print_canonical (v : Int) : toCharsInt v = intText v := toCharsInt_eq v

/-- every value of every integer type prints in at most 20 characters: the 42-byte buffer always suffices,
    and the printed text is the same in every string width -/
theorem print_fits_buffer (t : IntTy) (ht : t.Valid) (v : Int) (hv : t.Fits v) (w : Nat) (hw : w = 8 ∨ w = 16 ∨ w = 32) :
    (toCharsInt v).length ≤ 20 ∧ printInt w v = .ok (intText v) := by
  have hlen : (toCharsInt v).length ≤ 20 := by
    rw [toCharsInt_eq]; unfold intText
    have hb := t.fits_bounds ht.pos ht.le_64 hv
    split
    · have : (natDigits v.natAbs).length ≤ 19 := natDigits_length_le _ 19 (by omega) (by omega)
      simp only [List.length_cons]; omega
    · exact natDigits_length_le _ 20 (by omega) (by omega)
  refine ⟨hlen, ?_⟩
  have hascii : ∀ u ∈ toCharsInt v, u < 0x80 := toCharsInt_eq v ▸ intText_ascii v
  unfold printInt
  have : ¬ (toCharsInt v).length > printBufSize := by simp only [printBufSize]; omega
  simp only [this, ↓reduceIte]
  rcases hw with rfl | hw
  · simp [toCharsInt_eq]
  · have h8 : w ≠ 8 := by omega
    simp only [h8, if_false, Utf.utf8Decode]
    rw [decode8_ascii_out _ _ _ _ hascii, List.nil_append, toCharsInt_eq]

example : (⟨64, true⟩ : IntTy).Valid ∧ (⟨64, true⟩ : IntTy).Fits (-(2 ^ 63)) := by decide

/-- For EVERY string: the parser answers exactly what the class of the string demands — the value of the
    leading literal (after optional blanks) if the type holds it, out_of_range if not, invalid_argument if there is
    no literal or the literal is fractional. -/
theorem parse_total (t : IntTy) (ht : t.Valid) (s : List Nat) : Conforms (classify t s) (Num.parseInt t 8 s) :=
  -- matches by unfolding: `classify`, `classifyWith` to the class that lemma states, `parseInt t 8` (`if 8 = 8`) to `parseCore` behind `skipBlanks`
  parseCore_conforms t ht.pos (s.dropWhile isBlank)

/-- a returned value always lies in the range of the target type (no wrapped/truncated result, any width) -/
theorem parse_value_sound (t : IntTy) (ht : t.Valid) (str : List Nat) (v : Int) (h : parseCore t str = .ok v) :
    t.Fits v := by
  unfold parseCore at h
  cases hl : leadingLiteral t.signed str with
  | none => rw [fromCharsInt_none t str hl] at h; simp at h
  | some p =>
    obtain ⟨neg, ds, rest⟩ := p
    obtain ⟨-, hfc⟩ := fromCharsInt_some t ht.pos str neg ds rest hl
    rw [hfc] at h
    by_cases hfit : t.Fits (if neg = true then -(digitsVal ds : Int) else (digitsVal ds : Int))
    · simp only [hfit, ↓reduceIte] at h
      split at h
      · split at h
        · cases h
        · cases h; exact hfit
      · cases h; exact hfit
    · simp [hfit] at h

/-- "-1" into an unsigned type is invalid_argument (no literal), as the library's tests require -/
theorem unsigned_rejects_minus (t : IntTy) (ht : t.Valid) (hu : t.signed = false) (bl rest : List Nat)
    (hbl : ∀ c ∈ bl, isBlank c = true) :
    Num.parseInt t 8 (bl ++ minusSign :: rest) = .err .invalidArgument := by
  have h := parse_total t ht (bl ++ minusSign :: rest)
  have hc : classify t (bl ++ minusSign :: rest) = .invalid := by
    unfold classify classifyWith
    rw [List.dropWhile_append_of_pos hbl, List.dropWhile_cons_of_neg (show ¬ isBlank minusSign = true by decide)]
    simp [leadingLiteral, hu, isDigit, minusSign]
  rw [hc] at h; exact h

/-- Every value of every integer type prints to a text that parses back to itself. -/
theorem int_roundtrip (t : IntTy) (ht : t.Valid) (v : Int) (hv : t.Fits v) :
    Num.parseInt t 8 (toCharsInt v) = .ok v := by
  have h := parse_total t ht (toCharsInt v)
  rw [toCharsInt_eq, classify_intText t v hv] at h
  rw [toCharsInt_eq]; exact h

/-- For EVERY string of 16- or 32-bit code units (well-formed UTF or not): the answer is the one the class of the
    string demands — the same classification as for 8-bit strings, applied to the code units. -/
theorem parse_width_independent (t : IntTy) (ht : t.Valid) (w : Nat) (hw : w = 16 ∨ w = 32) (s : List Nat)
    (hU : Units w s) : Conforms (classify t s) (Num.parseInt t w s) := by
  have hw8 : w ≠ 8 := by omega
  unfold Num.parseInt classify classifyWith
  simp only [hw8, ↓reduceIte]
  have hb : skipBlanks s = s.dropWhile isBlank := rfl
  rw [hb, narrow_eq]
  have hUb : Units w (s.dropWhile isBlank) := hU.dropWhile isBlank
  generalize s.dropWhile isBlank = body at hUb
  -- the 8-bit classification of the narrowed text …
  have h8 := parseCore_conforms t ht.pos (narrowF w defaultMark8 body)
  -- … is the classification of the wide text itself
  rw [leadingLiteral_narrowF w hw t.signed body hUb] at h8
  cases hl : leadingLiteral t.signed body with
  | none => rw [hl] at h8; exact h8
  | some p =>
    obtain ⟨neg, ds, rest⟩ := p
    rw [hl] at h8
    obtain ⟨-, -, hrest, -⟩ := leadingLiteral_some hl
    have hUr : Units w rest := by
      rw [hrest]
      cases neg
      · exact hUb.dropWhile isDigit
      · exact (hUb.drop 1).dropWhile isDigit
    simp only [Option.map_some] at h8
    rw [narrowF_fractionalTail w hw rest hUr] at h8
    exact h8

/-- text whose units are all ASCII parses identically in every width -/
theorem parse_width_independent_ascii (t : IntTy) (w : Nat) (s : List Nat) (h : ∀ u ∈ s, u < 0x80) :
    Num.parseInt t w s = Num.parseInt t 8 s := by
  unfold Num.parseInt
  by_cases hw : w = 8
  · simp [hw]
  · simp only [hw, ↓reduceIte]
    have : ∀ u ∈ skipBlanks s, u < 0x80 := fun u hu => h u ((List.dropWhile_sublist _).subset hu)
    rw [narrow_eq, narrowF_of_ascii _ _ _ this]

/-- round trip through 16/32-bit strings -/
theorem int_roundtrip_wide (t : IntTy) (ht : t.Valid) (v : Int) (hv : t.Fits v) (w : Nat) (hw : w = 8 ∨ w = 16 ∨ w = 32) :
    ∃ txt, printInt w v = .ok txt ∧ Num.parseInt t w txt = .ok v := by
  refine ⟨intText v, (print_fits_buffer t ht v hv w hw).2, ?_⟩
  rw [parse_width_independent_ascii t w _ (intText_ascii v), ← toCharsInt_eq]
  exact int_roundtrip t ht v hv

/-- For EVERY string (code units of any width): the bool parser answers what the class of the string demands —
    `0`/`1`/`true`/`false` (any letter case, after optional blanks) give the value, another number gives out_of_range,
    anything else invalid_argument. -/
theorem bool_parse_total (s : List Nat) : BoolConforms (classifyBool s) (parseBool s) := parseBool_conforms s

/-- printed bools parse back -/
theorem bool_roundtrip (b : Bool) : parseBool (printBool b) = .ok b := by
  cases b <;> decide

/-- every letter-case variant of `true` / `false`, after blanks and before arbitrary further text, is accepted -/
theorem bool_literals (bl word rest : List Nat) (hbl : ∀ c ∈ bl, isBlank c = true) :
    (word.map lower = wTrue → parseBool (bl ++ word ++ rest) = .ok true) ∧
    (word.map lower = wFalse → parseBool (bl ++ word ++ rest) = .ok false) := by
  have h := bool_parse_total (bl ++ word ++ rest)
  rw [List.append_assoc] at h ⊢
  constructor
  · intro hw
    cases word with
    | nil => cases hw
    | cons a w =>
      have ha : lower a = 0x74 := (List.cons.inj hw).1
      rw [List.cons_append, classifyBool_word bl hbl a _ (by rw [ha]; decide), ← List.cons_append, startsWithCI_append rest hw] at h
      exact h
  · intro hw
    cases word with
    | nil => cases hw
    | cons a w =>
      have ha : lower a = 0x66 := (List.cons.inj hw).1
      have hT : startsWithCI wTrue (a :: (w ++ rest)) = false := startsWithCI_head_ne (w := 0x74) _ _ (by rw [ha]; decide)
      rw [List.cons_append, classifyBool_word bl hbl a _ (by rw [ha]; decide), hT, ← List.cons_append, startsWithCI_append rest hw] at h
      exact h

/-- The default error mark that `Utf8::Encode` writes for an untranscodable unit of a wide numeric string is the
    one the model uses, and it contains no ASCII byte (so it can never extend or create a literal); the library
    is compiled with `from_chars` for floating types (the `strtod` fallback is not the modelled code).
    `Generated.Num.*` is written by the translator from the tree on every check. -/
theorem consts_default_marks :
    BSVerif.Generated.Num.defaultErrorMark8 = defaultMark8 ∧
    BSVerif.Generated.Num.defaultErrorMark16 = defaultMark16 ∧
    BSVerif.Generated.Num.defaultErrorMark32 = defaultMark16 ∧
    (∀ b ∈ BSVerif.Generated.Num.defaultErrorMark8, 0x80 ≤ b) ∧
    BSVerif.Generated.Num.hasFloatFromChars = 1 := by
  decide

end BSVerif.Props.C16
