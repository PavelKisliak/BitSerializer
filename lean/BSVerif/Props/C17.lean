/-
  C17 — Validation reports exactly the failing fields and rules, after a full load.

  Quantifiers: ALL classes (any number of fields of the modelled kinds — int64, string, optional, vector,
  registered enum (loaded by name), nested class, vector of classes, map of classes — each with ANY list of
  validators in any order, built-in or custom), ALL documents, ALL values of maxValidationErrors. `Spec.failing cls doc` is the declarative specification: the failing
  fields in load order, each with the messages of its failing validators in declaration order.
  `enum_loaded_iff_registered_name` says when an enum field counts as loaded; the `throwError_*` theorems carry the
  property over to MismatchedTypesPolicy::ThrowError (`loadClassT`).

  The character-level semantics of Email and PhoneNumber are in Props/C17Text.lean (imported here, so that
  `lake build BSVerif.Props.C17` checks them too).

  Distinct paths (`Nodup`) is the precondition of "exactly the failing fields": two fields with the same key in
  one object would share one entry of the exception's map (messages appended) — excluded, decidable.
-/
import BSVerif.Valid.Lemmas
import BSVerif.Generated.ValidConsts
import BSVerif.Generated.ValidenumConsts
import BSVerif.Props.C17Text

namespace BSVerif.Props.C17
open BSVerif.Scope BSVerif.Scope.Spec BSVerif.Valid

def thrown : Outcome → Bool
  | .validation _ _ => true
  | .ok _ => false

/-- the trace of the model — what the validator calls report, in order — is the specification's list -/
theorem trace_eq_failing (cls : List Field) (es : List (Val × Val)) :
    (loadRoot cls es).2 = flattenFailing (Spec.failing cls (.map es)) := (loadRoot_spec cls es).2

/-- **C17 (iff)**: for every cap, a load throws ValidationException exactly when some validator of some
    visited field fails. A root value that is not an object visits no field. -/
theorem throws_iff (cap : Nat) (cls : List Field) (doc : Val) :
    thrown (loadClass cap cls doc) = true ↔ Spec.failing cls doc ≠ [] := by
  rcases doc with t | l | es
  · exact ⟨nofun, (absurd rfl ·)⟩
  · exact ⟨nofun, (absurd rfl ·)⟩
  rw [loadClass_map]
  have hne := failing_msgs_ne_nil cls (.map es)
  generalize Spec.failing cls (.map es) = l at hne ⊢
  cases l with
  | nil => exact ⟨nofun, (absurd rfl ·)⟩
  | cons e l =>
    refine ⟨fun _ => nofun, fun _ => ?_⟩
    cases hrun : runEvents cap [] (flattenFailing (e :: l)) with
    | error m => rfl
    | ok m =>
      have hev : flattenFailing (e :: l) ≠ [] := by
        obtain ⟨x, xs, hx⟩ := List.exists_cons_of_ne_nil (hne e (List.mem_cons_self ..))
        rw [flattenFailing, List.flatMap_cons, hx]
        nofun
      cases m with
      | nil => exact absurd rfl (runEvents_ok_ne_nil cap [] _ _ hrun (.inr hev))
      | cons => rfl

/-- **C17 (exactly, cap = 0)**: the load runs to its end; the exception lists exactly the failing fields with
    exactly their messages, and the object holds the document's values (passing fields are loaded). -/
theorem reports_exact (cls : List Field) (es : List (Val × Val))
    (hnd : ((Spec.failing cls (.map es)).map (·.1)).Nodup) :
    loadClass 0 cls (.map es) =
      if (Spec.failing cls (.map es)).isEmpty then .ok (Spec.expectedState cls (.map es))
      else .validation (Spec.failing cls (.map es)) (some (Spec.expectedState cls (.map es))) := by
  rw [loadClass_map, run_uncapped 0 _ hnd (failing_msgs_ne_nil cls _) (.inl rfl)]

/-- **C17 (cap not reached)**: with maxValidationErrors = n and fewer than n failing fields the report is
    still exact and complete. -/
theorem reports_capped_below (n : Nat) (cls : List Field) (es : List (Val × Val))
    (hnd : ((Spec.failing cls (.map es)).map (·.1)).Nodup) (hlt : (Spec.failing cls (.map es)).length < n) :
    loadClass n cls (.map es) =
      if (Spec.failing cls (.map es)).isEmpty then .ok (Spec.expectedState cls (.map es))
      else .validation (Spec.failing cls (.map es)) (some (Spec.expectedState cls (.map es))) := by
  rw [loadClass_map, run_uncapped n _ hnd (failing_msgs_ne_nil cls _) (.inr hlt)]

/-- **C17 (capped)**: with maxValidationErrors = n > 0 and at least n failing fields, the exception is thrown
    as soon as the n-th failing field is entered into the map: it lists the first n failing fields in load
    order, the first n−1 with all their messages and the n-th with its FIRST message only (a non-empty
    prefix); the load is abandoned at that point. -/
theorem reports_capped (n : Nat) (hn : 0 < n) (cls : List Field) (es : List (Val × Val))
    (hnd : ((Spec.failing cls (.map es)).map (·.1)).Nodup) (hge : n ≤ (Spec.failing cls (.map es)).length) :
    ∃ p msg rest, (Spec.failing cls (.map es))[n - 1]? = some (p, msg :: rest) ∧
      loadClass n cls (.map es) = .validation ((Spec.failing cls (.map es)).take (n - 1) ++ [(p, [msg])]) none := by
  obtain ⟨p, msg, rest, h1, h2⟩ := run_capped n hn _ hnd (failing_msgs_ne_nil cls _) hge
  exact ⟨p, msg, rest, h1, by rw [loadClass_map, h2]⟩

/-- **passing fields are loaded**: whenever the load ran to its end — with or without a ValidationException, for
    any cap — the object holds exactly the document's values, whatever validators are attached. -/
theorem passing_fields_loaded (cap : Nat) (cls : List Field) (es : List (Val × Val)) :
    match loadClass cap cls (.map es) with
    | .ok st => st = Spec.expectedState cls (.map es)
    | .validation _ (some st) => st = Spec.expectedState cls (.map es)
    | .validation _ none => True := by
  rw [loadClass_map]
  cases runEvents cap [] (flattenFailing (Spec.failing cls (.map es))) with
  | error m => trivial
  | ok m => cases m <;> rfl

/-- Required fails only when the field was not loaded -/
theorem required_semantics (msg : Option String) (seen : Seen) (loaded : Bool) :
    (Validator.required msg).check seen loaded = none ↔ loaded = true := by
  cases loaded <;> simp [Validator.check]

/-- Range is inclusive and passes when the field is absent -/
theorem range_semantics (lo hi : Int) (msg : Option String) (seen : Seen) (loaded : Bool) :
    (Validator.range lo hi msg).check seen loaded = none ↔ (loaded = false ∨ (lo ≤ seen.int ∧ seen.int ≤ hi)) := by
  rw [check_none_iff]
  cases loaded <;> simp [Spec.fails]

theorem minSize_semantics (n : Nat) (msg : Option String) (seen : Seen) (loaded : Bool) :
    (Validator.minSize n msg).check seen loaded = none ↔ (loaded = false ∨ n ≤ seen.size) := by
  rw [check_none_iff]
  cases loaded <;> simp [Spec.fails]

theorem maxSize_semantics (n : Nat) (msg : Option String) (seen : Seen) (loaded : Bool) :
    (Validator.maxSize n msg).check seen loaded = none ↔ (loaded = false ∨ seen.size ≤ n) := by
  rw [check_none_iff]
  cases loaded <;> simp [Spec.fails]

/-- the model's validators and the documented semantics agree, for every validator including custom ones -/
theorem check_iff_fails (v : Validator) (seen : Seen) (loaded : Bool) :
    (v.check seen loaded).isSome = Spec.fails v seen loaded := by
  rw [check_eq]
  cases Spec.fails v seen loaded <;> rfl

/-- the default messages are the ones compiled into the library (regenerated by the translator) -/
theorem required_default_message :
    requiredDefault = BSVerif.Generated.Valid.requiredMsg ∧
    (Validator.range 1 10 none).check ⟨11, 0⟩ true = some BSVerif.Generated.Valid.rangeMsg_1_10 ∧
    (Validator.range (-5) 5 none).check ⟨-6, 0⟩ true = some BSVerif.Generated.Valid.rangeMsg_m5_5 ∧
    (Validator.minSize 2 none).check ⟨0, 1⟩ true = some BSVerif.Generated.Valid.minSizeMsg_2 ∧
    (Validator.maxSize 5 none).check ⟨0, 6⟩ true = some BSVerif.Generated.Valid.maxSizeMsg_5 ∧
    BSVerif.Generated.Valid.maxValidationErrorsDefault = 0 := by
  decide +kernel

/-- the string names an enumerator: some registered name equals it up to ASCII letter case -/
def IsRegisteredName (s : List Nat) : Prop := ∃ n ∈ enumNames, Spec.foldCase n = Spec.foldCase s

/-- **an enum field counts as loaded iff the document holds a string that is a registered name** (up to letter
    case): not for any other string, a number, an array, an object, nil or an absent key. -/
theorem enum_loaded_iff_registered_name (v : Option Val) :
    (loadLeaf .enm v).1 = true ↔ ∃ s, v = some (.sc (.str s)) ∧ IsRegisteredName s := by
  by_cases hs : ∃ s, v = some (.sc (.str s))
  · obtain ⟨s, rfl⟩ := hs
    have : (∃ s', some (Val.sc (.str s)) = some (.sc (.str s')) ∧ IsRegisteredName s') ↔ IsRegisteredName s :=
      ⟨fun ⟨_, h, hr⟩ => by cases h; exact hr, fun h => ⟨s, rfl, h⟩⟩
    rw [loadLeaf_enm_str, this, IsRegisteredName, ← registered_isSome_iff]
    cases Spec.registered s <;> exact ⟨id, id⟩
  · rw [loadLeaf_enm_other hs]
    exact ⟨nofun, fun ⟨s, h, _⟩ => absurd ⟨s, h⟩ hs⟩

/-- the same for the field of a class: the result of `Serialize(archive, key, enumMember)` — what `Required` and every
    custom validator receive as `isLoaded` — is true iff the value under the key is a string naming an enumerator; and
    that is also what the specification's occurrence of the field says -/
theorem enum_field_loaded_iff (key : String) (vs : List Validator) (v : Option Val) :
    ((loadField ⟨key, .leaf .enm, vs⟩ v).1 = true ↔ ∃ s, v = some (.sc (.str s)) ∧ IsRegisteredName s) ∧
    (∃ seen loaded, Spec.fieldOccs ⟨key, .leaf .enm, vs⟩ v = [⟨"/" ++ key, vs, seen, loaded⟩] ∧
      (loaded = true ↔ ∃ s, v = some (.sc (.str s)) ∧ IsRegisteredName s)) := by
  refine ⟨by simpa [loadField] using enum_loaded_iff_registered_name v, ?_⟩
  refine ⟨(Spec.leafView .enm v).2, (Spec.leafView .enm v).1, rfl, ?_⟩
  rw [← (loadLeaf_view .enm v).1]
  exact enum_loaded_iff_registered_name v

/-- a field that is not loaded keeps the member's value (mismatched-and-skipped leaves the target untouched); a
    loaded one holds the enumerator of the FIRST registered name that equals the string up to letter case -/
theorem enum_not_loaded_untouched (v : Option Val) :
    ((loadLeaf .enm v).1 = false → (loadLeaf .enm v).2 = .enm enumInitial) ∧
    (∀ i, loadLeaf .enm v = (true, .enm i) →
      ∃ s n, v = some (.sc (.str s)) ∧ enumNames[i]? = some n ∧ Spec.foldCase n = Spec.foldCase s ∧
        ∀ j < i, ∀ m, enumNames[j]? = some m → Spec.foldCase m ≠ Spec.foldCase s) := by
  by_cases hs : ∃ s, v = some (.sc (.str s))
  · obtain ⟨s, rfl⟩ := hs
    rw [loadLeaf_enm_str]
    cases h : Spec.registered s with
    | none => exact ⟨fun _ => rfl, nofun⟩
    | some k =>
      refine ⟨nofun, fun i hi => ?_⟩
      cases hi
      obtain ⟨hlt, hp, hmin⟩ := List.findIdx?_eq_some_iff_getElem.mp h
      refine ⟨s, enumNames[k], rfl, List.getElem?_eq_getElem hlt, beq_iff_eq.mp hp, fun j hj m hm => ?_⟩
      obtain ⟨hjl, rfl⟩ := List.getElem?_eq_some_iff.mp hm
      exact fun heq => hmin j hj (beq_iff_eq.mpr heq)
  · rw [loadLeaf_enm_other hs]
    exact ⟨fun _ => rfl, nofun⟩

/-- the code's table scan (size test, `tolower` character loop, first hit) and the specification's "equals a registered
    name up to letter case" choose the same enumerator for every string -/
theorem enum_lookup_eq_spec (s : List Nat) : findEnum enumNames 0 s = Spec.registered s := findEnum_registered s

def upperAscii (s : List Nat) : List Nat := s.map fun c => if 97 ≤ c ∧ c ≤ 122 then c - 32 else c

/-- the probes of harness/dump/dump_validenum.cpp: "", "Lo", "Lowx", "low ", "Lov", "Hig", "Highh", "L\xf6w" -/
def unknownProbes : List (List Nat) :=
  [[], [76, 111], [76, 111, 119, 120], [108, 111, 119, 32], [76, 111, 118], [72, 105, 103], [72, 105, 103, 104, 104], [76, 246, 119]]

/-- the model's table is what the library's registry holds after the harness registration (names, order, values), the
    member's initial value is the harness's, and the compiled conversion answers the probes as the model does: every
    name as registered, upper-cased and lower-cased finds its enumerator; the unknown probes find nothing
    (regenerated by the translator from harness/dump/dump_validenum.cpp) -/
theorem enum_table_matches_code :
    enumNames = BSVerif.Generated.Validenum.toneNames ∧
    BSVerif.Generated.Validenum.toneCount = enumNames.length ∧
    BSVerif.Generated.Validenum.toneValues = List.range enumNames.length ∧
    enumInitial = BSVerif.Generated.Validenum.toneInitial ∧
    enumNames.map (fun n => (findEnum enumNames 0 n).getD enumNames.length) = BSVerif.Generated.Validenum.toneFindExact ∧
    enumNames.map (fun n => (findEnum enumNames 0 (upperAscii n)).getD enumNames.length) = BSVerif.Generated.Validenum.toneFindUpper ∧
    enumNames.map (fun n => (findEnum enumNames 0 (Spec.foldCase n)).getD enumNames.length) = BSVerif.Generated.Validenum.toneFindLower ∧
    unknownProbes.map (fun s => (findEnum enumNames 0 s).getD enumNames.length) = BSVerif.Generated.Validenum.toneFindUnknown := by
  decide +kernel

/-- **no mismatched value: the ThrowError load is the Skip load** — so `throws_iff`, `reports_exact`,
    `reports_capped_below`, `reports_capped`, `passing_fields_loaded` hold for it word for word; and the fields the
    specification lists "before the first mismatch" are all the visited fields. -/
theorem throwError_without_mismatch (cap : Nat) (cls : List Field) (doc : Val) (h : Spec.hasMismatch cls doc = false) :
    loadClassT cap cls doc = .done (loadClass cap cls doc) ∧ Spec.failingBefore cls doc = Spec.failing cls doc :=
  ⟨by rw [loadClassT_eq, h]; rfl, failingBefore_clean cls doc h⟩

/-- **a mismatched value**: the load ends with SerializationException(MismatchedTypes) — unless maxValidationErrors = n > 0
    was reached by the failing fields loaded BEFORE that value, in which case the capped ValidationException of
    `reports_capped` is thrown (first n failing fields before the mismatch, the n-th with its first message). -/
theorem throwError_mismatch (cap : Nat) (cls : List Field) (doc : Val) (h : Spec.hasMismatch cls doc = true)
    (hnd : ((Spec.failingBefore cls doc).map (·.1)).Nodup) :
    ((cap = 0 ∨ (Spec.failingBefore cls doc).length < cap) ∧ loadClassT cap cls doc = .mismatched) ∨
    (0 < cap ∧ cap ≤ (Spec.failingBefore cls doc).length ∧
      ∃ p msg rest, (Spec.failingBefore cls doc)[cap - 1]? = some (p, msg :: rest) ∧
        loadClassT cap cls doc = .done (.validation ((Spec.failingBefore cls doc).take (cap - 1) ++ [(p, [msg])]) none)) := by
  rw [loadClassT_eq, h, if_pos rfl]
  have hne := failingOf_msgs_ne_nil (Spec.beforeMismatch cls doc)
  by_cases hc : cap = 0 ∨ (Spec.failingBefore cls doc).length < cap
  · exact .inl ⟨hc, by rw [run_uncapped cap _ hnd hne hc]⟩
  · have hcap : 0 < cap ∧ cap ≤ (Spec.failingBefore cls doc).length := by omega
    obtain ⟨p, msg, rest, h1, h2⟩ := run_capped cap hcap.1 _ hnd hne hcap.2
    exact .inr ⟨hcap.1, hcap.2, p, msg, rest, h1, by rw [h2]⟩

/-- with the default maxValidationErrors = 0 a mismatched value always ends the load with MismatchedTypes -/
theorem throwError_mismatch_uncapped (cls : List Field) (doc : Val) (h : Spec.hasMismatch cls doc = true) :
    loadClassT 0 cls doc = .mismatched := by
  rw [loadClassT_eq, h, runEvents_zero]
  rfl

/-- whatever the cap: a document with a mismatched value is never loaded to its end under ThrowError — no `ok`, no
    ValidationException of a completed load -/
theorem throwError_never_ok_on_mismatch (cap : Nat) (cls : List Field) (doc : Val) (h : Spec.hasMismatch cls doc = true) :
    loadClassT cap cls doc = .mismatched ∨ ∃ m, loadClassT cap cls doc = .done (.validation m none) := by
  rw [loadClassT_eq, h]
  cases runEvents cap [] (flattenFailing (Spec.failingBefore cls doc)) with
  | error m => exact .inr ⟨m, rfl⟩
  | ok m => exact .inl rfl

def exampleClass : List Field :=
  [⟨"i", .leaf .int, [.required none, .range 1 10 none]⟩, ⟨"s", .leaf .str, [.minSize 2 none, .maxSize 5 none]⟩,
   ⟨"n", .obj [⟨"i", .int, [.required none]⟩], [.required (some "n is required")]⟩]

def exampleDoc : List (Val × Val) :=
  [(.sc (.str [105]), .sc (.int 11)), (.sc (.str [115]), .sc (.str [97])), (.sc (.str [110]), .map [])]

example : Spec.failing exampleClass (.map exampleDoc) =
    [("/i", ["Value must be between 1 and 10"]), ("/s", ["The minimum size of this field should be 2"]),
     ("/n/i", ["This field is required"])] := by decide +kernel

example : ((Spec.failing exampleClass (.map exampleDoc)).map (·.1)).Nodup := by decide +kernel

example : loadClass 2 exampleClass (.map exampleDoc) =
    .validation [("/i", ["Value must be between 1 and 10"]), ("/s", ["The minimum size of this field should be 2"])] none := by
  decide +kernel

/-- "e" : enum, Required + a custom validator that fails when the field is loaded and its value is odd;
    "i" : int64, Required;  "n" : nested class with an enum field -/
def enumClass : List Field :=
  [⟨"e", .leaf .enm, [.required none, .custom (fun s l => l && s.int % 2 != 0) "odd"]⟩, ⟨"i", .leaf .int, [.required none]⟩,
   ⟨"n", .obj [⟨"e", .enm, [.required (some "tone?")]⟩], []⟩]

def key (c : Nat) : Val := .sc (.str [c])
def strV (s : String) : Val := .sc (.str (s.toList.map Char.toNat))

-- a registered name in another letter case is loaded: no validator fails, the object holds High (2)
example : loadClass 0 enumClass (.map [(key 101, strV "hIGH"), (key 105, .sc (.int 7)), (key 110, .map [(key 101, strV "Low")])]) =
    .ok [.leaf (.enm 2), .leaf (.int 7), .obj [.enm 0]] := by decide +kernel

-- an unknown name ("Lo"), a number, nil, an absent key: not loaded — Required fails, the member keeps Mid (1), and the custom
-- validator is told isLoaded = false (so "odd" is not reported although Mid is odd)
example : loadClass 0 enumClass (.map [(key 101, strV "Lo"), (key 105, .sc (.int 7)), (key 110, .map [(key 101, .sc (.int 1))])]) =
    .validation [("/e", ["This field is required"]), ("/n/e", ["tone?"])] (some [.leaf (.enm 1), .leaf (.int 7), .obj [.enm 1]]) := by decide +kernel

example : Spec.failing enumClass (.map [(key 101, .sc .nil), (key 105, strV "x")]) =
    [("/e", ["This field is required"]), ("/i", ["This field is required"])] := by decide +kernel

-- a loaded odd value: the custom validator sees (Mid, isLoaded = true)
example : loadClass 1 enumClass (.map [(key 101, strV "MID"), (key 110, .map [])]) = .validation [("/e", ["odd"])] none := by decide +kernel

example : ∃ s, IsRegisteredName s ∧ s ∉ enumNames := ⟨[108, 79, 119], ⟨[76, 111, 119], by decide, by decide⟩, by decide⟩
example : ¬ IsRegisteredName [76, 111] := by
  intro ⟨n, hn, h⟩
  revert n
  decide

-- ThrowError: the unknown name is a mismatched value; cap 0 → MismatchedTypes; the cap reached before it → ValidationException
example : Spec.hasMismatch enumClass (.map [(key 105, strV "x"), (key 101, .sc .nil)]) = true := by decide +kernel
example : loadClassT 0 enumClass (.map [(key 105, strV "x"), (key 101, .sc .nil)]) = .mismatched := by decide +kernel
example : loadClassT 1 enumClass (.map [(key 105, strV "x"), (key 101, .sc .nil)]) =
    .done (.validation [("/e", ["This field is required"])] none) := by decide +kernel
example : loadClassT 0 enumClass (.map [(key 101, strV "Lo")]) = .mismatched := by decide +kernel
example : Spec.hasMismatch enumClass (.map [(key 101, strV "low"), (key 105, .sc .nil)]) = false := by decide +kernel
example : ((Spec.failingBefore enumClass (.map [(key 105, strV "x"), (key 101, .sc .nil)])).map (·.1)).Nodup := by decide +kernel

end BSVerif.Props.C17
