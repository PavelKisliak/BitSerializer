/-
  C17, the two text validators — "the built-in validators follow their documented semantics".

  The model (`Valid/TextValidators.lean`) is the branch-for-branch transliteration of `PhoneNumber::operator()`
  and `Email::operator()`; the Spec (`Valid/TextSpec.lean`) is written from the documentation and has three
  verdicts (accept / reject / open).
  Quantifiers: ALL strings of code units (any length, any unit values — char, char16_t, char32_t, wchar_t alike),
  ALL constructor parameters (min, max, isPlusRequired), loaded or not.
-/
import BSVerif.Valid.TextLemmas
import BSVerif.Generated.TextvalidConsts

namespace BSVerif.Props.C17Text
open BSVerif.Valid.Text BSVerif.Valid.TextSpec

/-- **Both bounds of the digit count are inclusive**: for every number of the documented shape that carries the
    `+` when it is required, and for all min, max (in particular all min ≤ max, min = max included),
    PhoneNumber(min, max, plus) passes if and only if min ≤ digits ≤ max. -/
theorem phone_digit_bounds_inclusive (min max : Nat) (plus : Bool) (s : List Nat) (hs : wellShaped s = true)
    (hplus : plus = true → s.head? = some 43) :
    phone ⟨min, max, plus⟩ true s = none ↔ min ≤ digits s ∧ digits s ≤ max := by
  rw [phone_shape_pass_iff _ s hs]
  exact ⟨fun h => h.2, fun h => ⟨fun hp => contains_of_head? (hplus hp), h⟩⟩

/-- "automatically pass if value is not loaded" -/
theorem phone_not_loaded_passes (cfg : PhoneCfg) (s : List Nat) : phone cfg false s = none := rfl

theorem email_not_loaded_passes (s : List Nat) : email false s = .pass := rfl

/-- **Spec accepts ⇒ the validator passes** -/
theorem phone_accept_sound (min max : Nat) (plus : Bool) (s : List Nat)
    (h : phoneVerdict min max plus s = .accept) : phone ⟨min, max, plus⟩ true s = none := by
  unfold phoneVerdict at h
  split at h
  · rename_i ha
    simp only [phoneAccepts, Bool.and_eq_true, Bool.or_eq_true, Bool.not_eq_true', decide_eq_true_eq, beq_iff_eq] at ha
    obtain ⟨⟨⟨hs, hp⟩, hlo⟩, hhi⟩ := ha
    rw [phone_shape_pass_iff _ s hs]
    refine ⟨fun hreq => ?_, hlo, hhi⟩
    rcases hp with hp | hp
    · cases hp.symm.trans (hreq : plus = true)
    · exact contains_of_head? hp
  · split at h <;> cases h

/-- **Spec rejects ⇒ the validator fails** -/
theorem phone_reject_sound (min max : Nat) (plus : Bool) (s : List Nat)
    (h : phoneVerdict min max plus s = .reject) : phone ⟨min, max, plus⟩ true s ≠ none := by
  unfold phoneVerdict at h
  split at h
  · cases h
  · split at h
    · rename_i hb
      exact phone_broken_fails min max plus s hb
    · cases h

theorem phone_pass_not_rejected (min max : Nat) (plus : Bool) (s : List Nat)
    (h : phone ⟨min, max, plus⟩ true s = none) : phoneVerdict min max plus s ≠ .reject :=
  fun hr => phone_reject_sound min max plus s hr h

theorem phone_fail_not_accepted (min max : Nat) (plus : Bool) (s : List Nat)
    (h : phone ⟨min, max, plus⟩ true s ≠ none) : phoneVerdict min max plus s ≠ .accept :=
  fun ha => h (phone_accept_sound min max plus s ha)

/-- **Totality, and the complete list of outcomes**: for every configuration and every string the validator
    terminates with `pass` or with one of the message classes below; the digit-count texts carry the configured
    numbers ("must contain N digits" exactly when min = max). -/
theorem phone_total (cfg : PhoneCfg) (loaded : Bool) (s : List Nat) :
    phone cfg loaded s = none ∨ phone cfg loaded s = some .dashes ∨ phone cfg loaded s = some .closing ∨
    phone cfg loaded s = some .chars ∨ phone cfg loaded s = some .plus ∨ phone cfg loaded s = some .unclosed ∨
    (cfg.minNumbers = cfg.maxNumbers ∧ phone cfg loaded s = some (.digitsExact cfg.minNumbers)) ∨
    (cfg.minNumbers ≠ cfg.maxNumbers ∧ phone cfg loaded s = some (.digitsRange cfg.minNumbers cfg.maxNumbers)) := by
  cases loaded
  · exact .inl rfl
  have hl := loop_loopErr s {} (.inl rfl)
  simp only [phone, Bool.not_true, Bool.false_eq_true, if_false]
  generalize phoneLoop {} s = st at hl
  unfold phoneFinish
  cases hp : st.inPar
  case true => simp
  cases (!st.hasPlus && cfg.plusRequired)
  case true => simp
  rcases hl with he | he | ⟨_, hn⟩ | he | he
  case inr.inr.inl => rw [hp] at hn; cases hn
  case inl =>
    by_cases hm : cfg.minNumbers = cfg.maxNumbers <;> simp [he, hm] <;> omega
  all_goals simp [he]

/-- the text "contains nested parentheses" can never be returned: a second `(` leaves the parenthesis open, and the
    later test "missing closing parenthesis" overwrites it (recorded observation, not a pass/fail matter) -/
theorem phone_nested_message_unreachable (cfg : PhoneCfg) (loaded : Bool) (s : List Nat) :
    phone cfg loaded s ≠ some .nested := by
  rcases phone_total cfg loaded s with h | h | h | h | h | h | ⟨_, h⟩ | ⟨_, h⟩ <;> rw [h] <;> simp

/-- the documented shape never breaks a documented rule: `accept` and `reject` of the Spec are consistent -/
theorem spec_verdicts_consistent (min max : Nat) (plus : Bool) (s : List Nat)
    (h : phoneAccepts min max plus s = true) : phoneBroken min max plus s = none := by
  cases hb : phoneBroken min max plus s with
  | none => rfl
  | some w =>
    have ha : phoneVerdict min max plus s = .accept := by simp [phoneVerdict, h]
    exact absurd (phone_accept_sound min max plus s ha) (phone_broken_fails min max plus s (by simp [hb]))

/-- **the model of Email characterised by the grammar of the Spec**: it passes exactly the strings
    `local@domain` (split at the first `@`) whose local part is a Dot-string of atext of at most 64 units and
    whose domain is a list of at most 255 units of dot separated labels (letters, digits, inner hyphens, at most
    63 units) none of which begins with a digit. -/
theorem email_pass_iff (s : List Nat) :
    emailCore s = true ↔
      ∃ d, afterAt s = some d ∧ localOk (localPart s) = true ∧ domainOk d = true ∧ digitFirstLabel d = false := by
  rw [emailCore_spec]
  cases afterAt s with
  | none => simp
  | some d => simp [Bool.and_assoc]

/-- **Spec accepts ⇒ the validator passes** (an accepted address has at most 254 units, so its size fits `int`) -/
theorem email_accept_sound (s : List Nat) (h : emailVerdict s = .accept) : email true s = .pass := by
  unfold emailVerdict at h
  split at h
  · cases h
  · rename_i d hd
    split at h
    · cases h
    · rename_i h1
      split at h
      · cases h
      · rename_i h2
        simp only [Bool.or_eq_true, Bool.not_eq_true', not_or, Bool.not_eq_false, decide_eq_true_eq, Bool.not_eq_true] at h1 h2
        have hc : emailCore s = true := (email_pass_iff s).mpr ⟨d, hd, h1.1, h1.2, h2.1⟩
        have hlen : ¬ s.length ≥ 2 ^ 31 := by omega
        simp [email, hlen, hc]

/-- **Spec rejects ⇒ the validator fails** (any size) -/
theorem email_reject_sound (s : List Nat) (h : emailVerdict s = .reject) : email true s ≠ .pass := by
  intro hp
  have hc : emailCore s = true := by
    simp only [email, Bool.not_true, Bool.false_eq_true, if_false] at hp
    split at hp
    · cases hp
    · split at hp
      · assumption
      · cases hp
  obtain ⟨d, hd, h1, h2, _⟩ := (email_pass_iff s).mp hc
  simp [emailVerdict, hd, h1, h2] at h
  split at h <;> cases h

theorem email_pass_not_rejected (s : List Nat) (h : email true s = .pass) : emailVerdict s ≠ .reject :=
  fun hr => email_reject_sound s hr h

/-- totality: below the `int` bound the validator answers pass or fail for every string -/
theorem email_total (loaded : Bool) (s : List Nat) (h : s.length < 2 ^ 31) :
    email loaded s = .pass ∨ email loaded s = .fail := by
  have hlen : ¬ s.length ≥ 2 ^ 31 := by omega
  cases loaded
  · exact Or.inl rfl
  · cases hc : emailCore s <;> simp [email, hlen, hc]

open BSVerif.Generated.Textvalid in
/-- the character classes and limits of the Spec (RFC) and of the model are the ones compiled into the library
    (`Generated/TextvalidConsts.lean`, written by tools/translate.py from the compiled functors):
    atext (+ dot) in the local part, letters / digits / hyphen (+ dot) inside a label, a letter first, a letter or
    digit last; 64 / 63 / 255; PhoneNumber's defaults 7, 15, plus required; the default texts. -/
theorem text_constants_match_code :
    (List.range 256).filter (fun c => atext c || c == cDot) = emailLocalAccepted ∧
    (List.range 256).filter atext = emailLocalFirstAccepted ∧
    (List.range 256).filter (fun c => ldh c || c == cDot) = emailLabelMidAccepted ∧
    (List.range 256).filter alpha = emailLabelFirstAccepted ∧
    (List.range 256).filter letDig = emailLabelLastAccepted ∧
    (List.range 256).filter (fun c => !localCharRejected c) = emailLocalFirstAccepted ∧
    localPartMaxSize = emailLocalMax ∧ domainPartLabelMaxSize = emailLabelMax ∧ domainPartMaxSize = emailDomainMax ∧
    emailDefaultMessage = emailMsg ∧
    ({} : PhoneCfg) = ⟨phoneDefaultMin, phoneDefaultMax, phoneDefaultPlusRequired == 1⟩ ∧
    (List.range 256).filter (fun c => dgt c || c == cSpace || c == cDash) = phoneMidAccepted ∧
    PhoneErr.dashes.message = phoneMsgDashes ∧ PhoneErr.closing.message = phoneMsgClosing ∧
    PhoneErr.chars.message = phoneMsgChars ∧ PhoneErr.plus.message = phoneMsgPlus ∧
    PhoneErr.unclosed.message = phoneMsgUnclosed ∧ (PhoneErr.digitsExact 4).message = phoneMsgExact_4 ∧
    (PhoneErr.digitsRange 7 15).message = phoneMsgRange_7_15 := by
  decide +kernel

/-- "+555 (55) 555-55-55" (the example of the documentation) -/
def docExample : List Nat := [43, 53, 53, 53, 32, 40, 53, 53, 41, 32, 53, 53, 53, 45, 53, 53, 45, 53, 53]

example : wellShaped docExample = true := by decide +kernel
example : digits docExample = 12 := by decide +kernel
example : phone {} true docExample = none := by decide +kernel
-- exactly at the bounds, one below, one above; min = max
example : phone ⟨12, 12, true⟩ true docExample = none := by decide +kernel
example : phone ⟨7, 12, true⟩ true docExample = none := by decide +kernel
example : phone ⟨12, 15, true⟩ true docExample = none := by decide +kernel
example : phone ⟨7, 11, true⟩ true docExample = some (.digitsRange 7 11) := by decide +kernel
example : phone ⟨13, 15, true⟩ true docExample = some (.digitsRange 13 15) := by decide +kernel
example : phone ⟨11, 11, true⟩ true docExample = some (.digitsExact 11) := by decide +kernel
-- "(55) 555 55 55" and "555 5 55 55" of the README, without the plus
example : wellShaped [40, 53, 53, 41, 32, 53, 53, 53, 32, 53, 53, 32, 53, 53] = true := by decide +kernel
example : phoneVerdict 7 15 false [53, 53, 53, 32, 53, 32, 53, 53, 32, 53, 53] = .accept := by decide +kernel
example : phoneVerdict 7 15 true [53, 53, 53, 32, 53, 32, 53, 53, 32, 53, 53] = .reject := by decide +kernel
-- "+1234567- " : the dash separates nothing (rejected by the Spec, and by the fixed code)
example : phoneVerdict 7 15 true [43, 49, 50, 51, 52, 53, 54, 55, 45, 32] = .reject := by decide +kernel
example : phone {} true [43, 49, 50, 51, 52, 53, 54, 55, 45, 32] = some .dashes := by decide +kernel
-- " +91 - 22 - 27782183 " (a test of the library's own suite): the documentation is silent
example : phoneVerdict 7 15 true [32, 43, 57, 49, 32, 45, 32, 50, 50, 32, 45, 32, 50, 55, 55, 56, 50, 49, 56, 51, 32] = .open := by decide +kernel
-- "+1 ((2)) 3": the second `(` is reported as a missing closing parenthesis
example : phone ⟨1, 9, true⟩ true [43, 49, 32, 40, 40, 50, 41, 41, 32, 51] = some .unclosed := by decide +kernel

/-- "a.b@c-d.ef" -/
def mailExample : List Nat := [97, 46, 98, 64, 99, 45, 100, 46, 101, 102]

example : emailVerdict mailExample = .accept := by decide +kernel
example : email true mailExample = .pass := by decide +kernel
-- "a@.b": the domain begins with a dot (rejected by the Spec, and by the fixed code)
example : emailVerdict [97, 64, 46, 98] = .reject := by decide +kernel
example : email true [97, 64, 46, 98] = .fail := by decide +kernel
-- "a@1b": a label that begins with a digit — RFC 1035 and RFC 1123 disagree, the Spec is silent, the code rejects
example : emailVerdict [97, 64, 49, 98] = .open := by decide +kernel
example : email true [97, 64, 49, 98] = .fail := by decide +kernel
-- "ab" / "a@b@c" / "a..b@c" / "\"a\"@b"
example : emailVerdict [97, 98] = .reject := by decide +kernel
example : emailVerdict [97, 64, 98, 64, 99] = .reject := by decide +kernel
example : emailVerdict [97, 46, 46, 98, 64, 99] = .reject := by decide +kernel
example : emailVerdict [34, 97, 34, 64, 98] = .reject := by decide +kernel
-- the local part at / over its limit
example : email true (List.replicate 64 97 ++ [64, 98]) = .pass := by decide +kernel
example : email true (List.replicate 65 97 ++ [64, 98]) = .fail := by decide +kernel
example : emailVerdict (List.replicate 64 97 ++ [64, 98]) = .accept := by decide +kernel
example : emailVerdict (List.replicate 65 97 ++ [64, 98]) = .reject := by decide +kernel

end BSVerif.Props.C17Text
