/-
  C18 — Loading into a populated target gives the same result as into a fresh one.

  Quantifiers: ALL prior contents, ALL estimated sizes (0 = archive reports none, exact, too small, too
  large), ALL item lists (unbounded), ALL element loaders (`Loader`: scalars, strings, nested containers,
  classes).

  The unrestricted statement is FALSE for the code as it is: an element whose `Serialize` returns false
  (value of another kind skipped by policy, nil, absent) inside a REUSED slot keeps the slot's old value.
  `container_full_refuted` is the witness, `container_partial` the theorem with the exact, decidable
  exclusion: "every item that meets a slot of the prior content is loadable".
-/
import BSVerif.Cont.Lemmas

namespace BSVerif.Props.C18
open BSVerif.Cont

variable {ι α : Type}

/-- **General form.** If no item's result depends on the previous value of its target, the loaded
    container does not depend on the prior content — for every estimated size. -/
theorem container_general (L : Loader ι α) (prior : List α) (est : Nat) (items : List ι)
    (h : ∀ it ∈ items, PriorIndep L it) :
    serializeContainer L prior est items = serializeContainer L [] est items := by
  rw [serializeContainer_spec, serializeContainer_spec]
  exact specLoad_congr L _ _ items fun i hi => Or.inl (h _ (List.getElem_mem hi))

/-- **C18 for scalar elements**: when every element of the document is loadable, a populated target ends
    up exactly like a fresh one. -/
theorem container_fresh_eq (d : α) (prior : List α) (est : Nat) (items : List (Option α))
    (h : ∀ it ∈ items, it.isSome = true) :
    serializeContainer (scalar d) prior est items = serializeContainer (scalar d) [] est items :=
  container_general _ prior est items fun it hit => scalar_priorIndep d it (h it hit)

/-- … and that result is the document's values: nothing loaded is lost, nothing stale survives. -/
theorem container_result (d : α) (prior : List α) (est : Nat) (items : List (Option α))
    (h : ∀ it ∈ items, it.isSome = true) :
    serializeContainer (scalar d) prior est items = items.map (·.getD d) := by
  rw [serializeContainer_spec, specLoad_eq_mapIdx, List.mapIdx_eq_iff]
  intro i
  rw [List.getElem?_map]
  cases hi : items[i]? with
  | none => rfl
  | some it =>
    have : it.isSome = true := h it (List.mem_of_getElem? hi)
    cases it with
    | none => simp at this
    | some v => rfl

/-- the exact exclusion of C18: no unloadable item at a position the prior content reaches -/
def NoSkipInReusedSlot (prior : List α) (items : List (Option α)) : Bool :=
  (items.take prior.length).all (·.isSome)

/-- **C18, partial form** (exact exclusion): loadable items wherever a prior element is reused. -/
theorem container_partial (d : α) (prior : List α) (est : Nat) (items : List (Option α))
    (h : NoSkipInReusedSlot prior items = true) :
    serializeContainer (scalar d) prior est items = serializeContainer (scalar d) [] est items := by
  rw [serializeContainer_spec, serializeContainer_spec]
  apply specLoad_congr
  intro i hi
  by_cases hp : i < prior.length
  · left
    apply scalar_priorIndep
    simp only [NoSkipInReusedSlot, List.all_eq_true] at h
    apply h
    rw [List.mem_iff_getElem]
    exact ⟨i, by simp; omega, by simp⟩
  · right
    have slot : ∀ p : List α, p.length ≤ i → (if est ≠ 0 then resize d est p else p)[i]?.getD d = d := by
      intro p hp
      split
      · exact resize_getD_of_length_le d est hp
      · rw [List.getElem?_eq_none hp]; rfl
    exact (slot prior (by omega)).trans (slot [] (Nat.zero_le i)).symm

/-- the full statement of C18 for sequence containers -/
def ContainerFull : Prop :=
  ∀ (prior : List Int) (est : Nat) (items : List (Option Int)),
    serializeContainer (scalar 0) prior est items = serializeContainer (scalar 0) [] est items

/-- **Refutation**: `[901]` loaded from a one-element array whose element is not loadable (e.g. `["x"]`
    into vector<int64> under MismatchedTypesPolicy::Skip) keeps 901; a fresh target gets 0.
    Replayed on the real code: `cont.load vector - 901 a1,s78`. -/
theorem container_full_refuted : ¬ ContainerFull := by
  intro h
  have := h [901] 1 [none]
  revert this
  decide

/-- **What the loops compute** when the estimate is exact (MsgPack, JSON, XML) or absent (CSV): element i is
    the item loaded into the prior element i if there was one, else into a value-initialised element; the size
    is the number of items. -/
theorem container_meets_data_model (L : Loader ι α) (prior : List α) (est : Nat) (items : List ι)
    (hest : est = 0 ∨ est = items.length) :
    serializeContainer L prior est items = items.mapIdx fun i it => (L.load it (prior[i]?.getD L.dflt)).2 := by
  rw [serializeContainer_spec, specLoad_eq_mapIdx, List.mapIdx_eq_mapIdx_iff]
  intro i hi
  by_cases he : est = 0
  · simp [he]
  · have : est = items.length := by omega
    simp only [ne_eq, he, not_false_eq_true, if_true]
    rw [resize_getElem? _ _ _ _ (by omega)]

/-- the forward_list overload (seed element, `emplace_after(LastIt)`) never runs into
    `emplace_after(end())` and computes what the generic container loader computes -/
theorem forward_list_eq_container (L : Loader ι α) (prior : List α) (est : Nat) (items : List ι) :
    serializeForwardList L prior est items = some (serializeContainer L prior est items) := by
  rw [serializeForwardList_spec, serializeContainer_spec]
  congr 1
  by_cases he : est = 0
  · simp only [he, ne_eq, not_true_eq_false, if_false]
    cases prior with
    | nil =>
      simp only [List.isEmpty_nil, if_true]
      apply specLoad_congr
      intro i _
      right
      cases i <;> simp [resize]
    | cons => simp
  · simp [he]

theorem forward_list_fresh_eq (d : α) (prior : List α) (est : Nat) (items : List (Option α))
    (h : NoSkipInReusedSlot prior items = true) :
    serializeForwardList (scalar d) prior est items = serializeForwardList (scalar d) [] est items := by
  rw [forward_list_eq_container, forward_list_eq_container, container_partial d prior est items h]

/-- vector<bool> never shows the prior content (every element is assigned the carried `value`) — and it
    is the list of carried values: an unloadable element repeats the previous element's value -/
theorem vector_bool_fresh_eq (prior : List Bool) (est : Nat) (items : List (Option Bool)) :
    serializeVectorBool prior est items = serializeVectorBool [] est items ∧
    serializeVectorBool prior est items = runBool false items := by
  rw [serializeVectorBool_spec, serializeVectorBool_spec]
  exact ⟨rfl, rfl⟩

/-- bitset<N>: independent of the prior bits, including the OutOfRange outcome for short documents -/
theorem bitset_fresh_eq (prior prior' : List Bool) (items : List (Option Bool)) (h : prior.length = prior'.length) :
    serializeBitset prior items = serializeBitset prior' items :=
  bitsetLoop_congr false prior prior' items h

/-- std::array / C array of the same size: equal results when every element is loadable -/
theorem fixed_array_fresh_eq (d : α) (prior prior' : List α) (items : List (Option α)) (hl : prior.length = prior'.length)
    (h : ∀ it ∈ items, it.isSome = true) :
    serializeFixedArray (scalar d) prior items = serializeFixedArray (scalar d) prior' items := by
  rw [serializeFixedArray_spec, serializeFixedArray_spec, hl]
  split
  · congr 1
    exact specLoad_congr _ _ _ items fun i hi => Or.inl (scalar_priorIndep d _ (h _ (List.getElem_mem hi)))
  · rfl

/-- a document with another number of elements than the fixed-size target is rejected -/
theorem fixed_array_size_mismatch (L : Loader ι α) (prior : List α) (items : List ι) (h : prior.length ≠ items.length) :
    serializeFixedArray L prior items = .error .outOfRange := by
  rw [serializeFixedArray_spec]; simp [h]

/-- valarray is loaded through a temporary vector: never depends on the prior content -/
theorem valarray_fresh_eq (L : Loader ι α) (prior : List α) (est : Nat) (items : List ι) :
    serializeValarray L prior est items = serializeValarray L [] est items := rfl

theorem set_fresh_eq [DecidableEq α] (L : Loader ι α) (u : Bool) (prior : List α) (items : List ι) :
    serializeSet L u prior items = serializeSet L u [] items := rfl

/-- the members are exactly the values the items load into a value-initialised element -/
theorem set_members [DecidableEq α] (L : Loader ι α) (u : Bool) (prior : List α) (items : List ι) (x : α) :
    x ∈ serializeSet L u prior items ↔ ∃ it ∈ items, (L.load it L.dflt).2 = x := by
  unfold serializeSet
  rw [foldl_setInsert_mem u (fun it => (L.load it L.dflt).2) items [] x]
  simp

theorem multimap_fresh_eq (L : Loader ι α) (prior : List (Int × α)) (items : List (Option (Option Int × ι))) :
    serializeMultiMap L prior items = serializeMultiMap L [] items := rfl

theorem clean_fresh_eq (L : Loader ι α) (prior : MapOf α) (doc : List (Option Int × ι)) :
    serializeMap L .clean prior doc = serializeMap L .clean [] doc := rfl

/-- OnlyExistKeys never adds (nor removes) a key -/
theorem only_exist_never_adds (L : Loader ι α) (prior : MapOf α) (doc : List (Option Int × ι)) :
    keys (serializeMap L .onlyExist prior doc) = keys prior := by
  unfold serializeMap
  simp [keys_foldl_onlyExist]

/-- UpdateKeys never removes a key -/
theorem update_never_removes (L : Loader ι α) (prior : MapOf α) (doc : List (Option Int × ι)) (k : Int)
    (h : k ∈ keys prior) : k ∈ keys (serializeMap L .update prior doc) := by
  unfold serializeMap
  simp only [reduceCtorEq, if_false]
  exact keys_foldl_update_mono L doc prior k h

/-- … and adds every convertible key of the document -/
theorem update_adds_document_keys (L : Loader ι α) (prior : MapOf α) (doc : List (Option Int × ι)) (k : Int) (it : ι)
    (h : (some k, it) ∈ doc) : k ∈ keys (serializeMap L .update prior doc) := by
  unfold serializeMap
  simp only [reduceCtorEq, if_false]
  exact keys_foldl_update_doc L doc prior k it h

theorem optional_fresh_eq (L : Loader ι α) (it : ι) (prior : Option α) (h : PriorIndep L it) :
    serializeOptional L it prior = serializeOptional L it none := by
  simp only [serializeOptional, h (prior.getD L.dflt) L.dflt, Option.getD_none]

/-- for scalars (and strings) NO document is excluded: a failed load resets the optional/pointer -/
theorem optional_scalar_independent (d : α) (it : Option α) (prior : Option α) :
    serializeOptional (scalar d) it prior = serializeOptional (scalar d) it none := by
  cases it <;> rfl

/-- a nested array whose elements are all prior-independent is itself prior-independent -/
theorem vecLoader_priorIndep (L : Loader ι α) (est : Nat) (items : List ι) (h : ∀ it ∈ items, PriorIndep L it) :
    PriorIndep (vecLoader L) (some (est, items)) := by
  intro a b
  simp only [vecLoader]
  rw [container_general L a est items h, container_general L b est items h]

/-- **C18 for vector<vector<T>>** (any depth by iterating `vecLoader_priorIndep`): if every outer element
    is an array of loadable values, populated = fresh -/
theorem nested_fresh_eq (d : α) (prior : List (List α)) (est : Nat) (items : List (ArrItem (Option α)))
    (h : ∀ it ∈ items, ∃ e its, it = some (e, its) ∧ ∀ x ∈ its, x.isSome = true) :
    loadObject (vecLoader (vecLoader (scalar d))) (some (est, items)) prior
      = loadObject (vecLoader (vecLoader (scalar d))) (some (est, items)) [] := by
  simp only [loadObject, vecLoader]
  apply container_general
  intro it hit
  obtain ⟨e, its, rfl, hx⟩ := h it hit
  exact vecLoader_priorIndep _ e its fun x hxm => scalar_priorIndep d x (hx x hxm)

def NestedFull : Prop :=
  ∀ (prior : List (List Int)) (est : Nat) (items : List (ArrItem (Option Int))),
    loadObject (vecLoader (vecLoader (scalar 0))) (some (est, items)) prior
      = loadObject (vecLoader (vecLoader (scalar 0))) (some (est, items)) []

/-- an inner element that is not loadable keeps the stale inner value: `[[901]]` ← `[[nil]]`
    (`cont.load vector_of_vector - 901 a1,a1,n`) -/
theorem nested_full_refuted : ¬ NestedFull := by
  intro h
  have := h [[901]] 1 [some (1, [none])]
  revert this
  decide

example : (∀ it ∈ [some (1 : Int), some 2], it.isSome = true) ∧
    serializeContainer (scalar 0) [901, 902, 903] 2 [some 1, some 2] = [1, 2] := by decide +kernel

example : NoSkipInReusedSlot [901] [some (1 : Int), none, some 3] = true ∧
    serializeContainer (scalar 0) [901] 3 [some 1, none, some 3] = [1, 0, 3] := by decide +kernel

example : serializeForwardList (scalar (0 : Int)) [] 0 [some 1, none] = some [1, 0] := by decide +kernel

example : keys (serializeMap (scalar (0 : Int)) .onlyExist [(1, 901), (2, 902)] [(some 2, some 20), (some 3, some 30)]) = [1, 2] := by
  decide +kernel

example : serializeMap (scalar (0 : Int)) .update [(1, 901), (2, 902)] [(some 2, some 20), (some 3, none)] = [(1, 901), (2, 20), (3, 0)] := by
  decide +kernel

example : serializeBitset [true, true] [some false, none] = .ok [false, false] ∧ serializeBitset [true, true] [some false] = .error .outOfRange :=
  ⟨rfl, rfl⟩

end BSVerif.Props.C18
