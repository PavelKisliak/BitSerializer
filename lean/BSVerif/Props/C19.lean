/-
  C19 — Independent serializations on different threads do not interfere.

  (1) `interleaving_eq_sequential`: for EVERY schedule of any number of threads whose steps are
      confined to thread-private locations plus shared read-only constants, every thread ends with
      exactly the private state it would have after running alone, and the constants are untouched
      (so no step of one thread can ever observe a write of another: race freedom at the level of
      the footprint abstraction).
  (2) the side conditions that make the library an instance of (1) are REGENERATED FROM THE SOURCE on
      every run: the inventory of all objects of static storage duration (clang AST) and of all
      symbols in writable sections of the compiled objects (objdump). Everything else an operation
      touches is reachable only from its arguments, its stack `SerializationContext` and its own
      archive object.
  What a Lean theorem cannot exhibit — the memory-model behaviour of the compiled code — is
  exercised by the ThreadSanitizer stress run of the check (labelled validation, not proof).
-/
import BSVerif.Conc.Model
import BSVerif.Generated.InventoryConsts

namespace BSVerif.Props.C19
open BSVerif.Conc

/-- agreement of two memories on thread `i`'s view (its private locations and the constants) -/
def AgreeOn {n : Nat} (S : System n) (i : Fin n) (m₁ m₂ : Mem) : Prop := ∀ l, S.P i l ∨ S.C l → m₁ l = m₂ l

/-- executed prefix of thread i = its program minus what is still pending; the constants are as at the start -/
structure Inv {n : Nat} (S : System n) (m₀ : Mem) (c : Conf n) : Prop where
  suffix : ∀ i, ∃ done, S.prog i = done ++ c.rest i ∧ AgreeOn S i c.mem (runSeq done m₀)
  consts : ∀ l, S.C l → c.mem l = m₀ l

theorem step_preserves {n : Nat} (S : System n) (m₀ : Mem) (c : Conf n) (h : Inv S m₀ c) (i : Fin n) :
    Inv S m₀ (c.step i) := by
  unfold Conf.step
  cases hr : c.rest i with
  | nil => exact h
  | cons s tl =>
    have hs_i : s ∈ S.prog i := by
      obtain ⟨di, hdi, _⟩ := h.suffix i
      rw [hdi, hr]
      exact List.mem_append_right _ (List.mem_cons_self ..)
    refine ⟨fun j => ?_, fun l hc => (S.frame i s hs_i _ l fun hp => S.constSep i l hp hc).trans (h.consts l hc)⟩
    obtain ⟨done, hd, hag⟩ := h.suffix j
    by_cases hji : j = i
    · subst hji
      refine ⟨done ++ [s], by simp [hd, hr], fun l hl => ?_⟩
      simp only [runSeq, List.foldl_append, List.foldl_cons, List.foldl_nil]
      rcases hl with hp | hc
      · exact S.local_ j s hs_i _ _ hag l hp
      · have hnp : ¬ S.P j l := fun hp => S.constSep j l hp hc
        rw [S.frame j s hs_i _ l hnp, S.frame j s hs_i _ l hnp]
        exact hag l (Or.inr hc)
    · refine ⟨done, by simp [hji, hd], fun l hl => ?_⟩
      have hnp : ¬ S.P i l := by
        rcases hl with hp | hc
        · exact fun hpi => S.disjoint i j l (fun e => hji e.symm) hpi hp
        · exact fun hpi => S.constSep i l hpi hc
      exact (S.frame i s hs_i _ l hnp).trans (hag l hl)

/-- **C19 (abstract non-interference), every schedule.** -/
theorem interleaving_eq_sequential {n : Nat} (S : System n) (m₀ : Mem) (sched : List (Fin n)) :
    let c := (Conf.mk m₀ S.prog).run sched
    -- every thread that ran to completion has exactly its sequential private result …
    (∀ i, c.rest i = [] → ∀ l, S.P i l → c.mem l = runSeq (S.prog i) m₀ l) ∧
    -- … and the shared constants are never changed
    (∀ l, S.C l → c.mem l = m₀ l) := by
  have keeps : ∀ c, Inv S m₀ c → Inv S m₀ (c.run sched) := by
    induction sched with
    | nil => exact fun _ h => h
    | cons i tl ih => exact fun c h => ih _ (step_preserves S m₀ c h i)
  have hinv := keeps ⟨m₀, S.prog⟩ ⟨fun i => ⟨[], rfl, fun l _ => rfl⟩, fun _ _ => rfl⟩
  refine ⟨fun i hdone l hp => ?_, hinv.consts⟩
  obtain ⟨done, hd, hag⟩ := hinv.suffix i
  rw [hdone, List.append_nil] at hd
  rw [hd]
  exact hag l (Or.inl hp)

open BSVerif.Generated.Inventory

/-- writers that only run during static initialisation (namespace-scope `REGISTER_ENUM` initialisers,
    before `main`, hence before any thread of the property's scenario exists) -/
def initOnlyWriter (w : String) : Bool :=
  w == "BitSerializer::Convert::Detail::EnumRegistry::Register" ||
  w == "BitSerializer::Convert::Detail::EnumRegistry::Register(arg)"

/-- an object of static storage duration cannot be the subject of a data race in the property's
    scenario: it is immutable, or it is only written during static initialisation, or (the mutable
    `DefaultOptions`) nothing in the library ever writes it -/
def SafeStatic (s : String × String × String × List String) : Bool :=
  s.2.1 == "constexpr" || s.2.1 == "const" || s.2.2.2.all initOnlyWriter

/-- **Every object of static storage duration in the current tree is race-safe.** A new mutable
    `static` scratch buffer, cached key string or counter breaks this theorem by name. -/
theorem all_statics_safe : statics.all SafeStatic = true := by decide +kernel

/-- the only symbols the COMPILED library places in writable sections are the write-once enum registries -/
def allowedCompiledMutable : List String :=
  ["BitSerializer::Convert::Detail::EnumRegistry::mBeginIt", "BitSerializer::Convert::Detail::EnumRegistry::mEndIt",
   "BitSerializer::Convert::Detail::EnumRegistry::Register()::descriptors_", "BitSerializer::DefaultOptions"]

/-- a symbol in a writable section is harmless when it is one of the write-once registries, or when the source
    inventory says it is a `const` object (dynamically initialised once — function-local statics under the C++11
    guard — and never written again) -/
def SafeCompiled (s : String × String) : Bool :=
  allowedCompiledMutable.contains s.1 ||
  statics.any (fun t => t.1 == s.1 && (t.2.1 == "const" || t.2.1 == "constexpr"))

theorem compiled_mutable_safe : compiledMutable.all SafeCompiled = true := by
  decide +kernel

def demo : System 2 where
  P := fun i l => l = i.val
  C := fun l => l = 9
  prog := fun i => [fun m l => if l = i.val then m l + m 9 else m l]
  disjoint := by intro i j l hij hi hj; subst hi; exact hij (Fin.ext hj)
  constSep := by
    intro i l hp hc
    have hi := i.isLt
    have h1 : (l : Nat) = i.val := hp
    have h2 : (l : Nat) = 9 := hc
    have h3 : i.val = 9 := h1.symm.trans h2
    have h4 : i.val < 2 := i.isLt
    rw [h3] at h4
    exact absurd h4 (by decide)
  frame := by intro i s hs m l hn; simp at hs; subst hs; simp [hn]
  local_ := by
    intro i s hs m₁ m₂ hag l hp
    simp at hs; subst hs
    simp only [hp, if_true]
    rw [hag i.val (Or.inl rfl), hag 9 (Or.inr rfl)]

example : ((Conf.mk (fun _ => 1) demo.prog).run [1, 0]).mem 0 = 2 := by decide +kernel

end BSVerif.Props.C19
