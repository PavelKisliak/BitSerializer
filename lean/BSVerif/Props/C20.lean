/-
  C20 — Every failure surfaces as a catchable exception: no terminate, no leak.

  (1) scope-lifetime machine (Fault/Model.lean): destructors whose work fails either defer the error to
      `Finalize()` or let it escape. If no destructor lets an exception escape, then for EVERY program and
      EVERY fault schedule — failing steps, failing destructor work, both, in any order, also a destructor
      failing while another exception unwinds the stack — the outcome is never `terminate`
      (`no_terminate`); a failing step surfaces as exactly its own exception (`error_surfaces`); and when no
      step fails, the call completes normally ONLY IF no destructor's work failed either: a deferred error is
      rethrown by `Finalize()`, never swallowed (`deferred_error_surfaces`), and an exception that reaches the
      caller is one that was really raised (`exception_is_genuine`).
  (2) regenerated from the source on every run (clang AST, transitive may-throw analysis that knows that
      `try { … } catch (...) { }` confines what the try block throws): `dtors` = every user-provided destructor
      with the calls through which an exception may LEAVE it, `dtorsDeferred` = the calls it guards. On the current
      tree no destructor can let an exception escape (`dtors_cannot_let_exceptions_escape`, the hypothesis of (1));
      exactly four destructors have fallible work and defer it (`deferring_dtors_are_the_four_scopes`). A new
      throwing call in any destructor — or the removal of one of the try/catch blocks — breaks the first
      theorem by name. Before fixes 149505c / d75a225 two destructors were fallible (the recorded classes
      msgpack-object-dtor-throws, csv-write-dtor-throws); `throwing_dtor_terminates` keeps the reason why that
      was fatal.
  Allocation failure, stream failure and truncation at every position are runtime enumerations
  (harness/ops_fault.cpp), labelled validation.
-/
import BSVerif.Fault.Lemmas
import BSVerif.Generated.InventoryConsts

namespace BSVerif.Props.C20
open BSVerif.Fault

def stackOk (stack : List Dtor) : Prop := ∀ d ∈ stack, d.escapes = false

/- The cases of `fun_induction exec` are the equations of `exec` in order: case1-3 the end of the program (`unwind` = `none`;
   `some _` with `dfr` = `some e`; with `dfr` = `none`), case4 `openScope`, case5 `step none`, case6/7 `step (some e)` with `unwind` =
   `none` / `some _`, case8-11 `closeScope` on the stack `[]` / `.clean :: _` / `.defers e :: _` / `.throws _ :: _`. -/

/-- **No terminate**: when no destructor lets an exception escape, then whatever fails wherever — steps, the
    destructors' own work, during normal closes or during stack unwinding — the process is never terminated. -/
theorem no_terminate (prog : List Instr) (hp : noEscapingDtor prog) :
    ∀ stack dfr, stackOk stack → exec prog stack dfr ≠ .terminate := by
  intro stack dfr hs
  fun_induction exec prog stack dfr with
  | case1 stack dfr hu => exact absurd hu (unwind_ne_none stack hs dfr)
  | case2 stack _ e hu => rw [hu]; nofun
  | case3 stack _ hu => rw [hu]; nofun
  | case4 d is stack dfr ih => exact ih (noEscapingDtor_tail hp) (List.forall_mem_cons.mpr ⟨hp d (List.mem_cons_self ..), hs⟩)
  | case5 is stack dfr ih => exact ih (noEscapingDtor_tail hp) hs
  | case6 e is stack dfr hu => exact absurd hu (unwind_ne_none stack hs dfr)
  | case7 => nofun
  | case8 is dfr ih => exact ih (noEscapingDtor_tail hp) hs
  | case9 is dfr rest ih => exact ih (noEscapingDtor_tail hp) (List.forall_mem_cons.mp hs).2
  | case10 is dfr e rest ih => exact ih (noEscapingDtor_tail hp) (List.forall_mem_cons.mp hs).2
  | case11 is dfr e rest => cases hs _ (List.mem_cons_self ..)

/-- **The error surfaces**: a failing step reaches the caller as exactly its own exception — the first one —
    whatever the destructors that run during the unwinding do (their errors are deferred and dropped with the context). -/
theorem error_surfaces (prog : List Instr) (hp : noEscapingDtor prog) (e : Nat) (hf : firstFailure prog = some e) :
    ∀ stack dfr, stackOk stack → exec prog stack dfr = .exception e := by
  intro stack dfr hs
  fun_induction exec prog stack dfr with
  | case1 | case2 | case3 => cases hf
  | case4 d is stack dfr ih => exact ih (noEscapingDtor_tail hp) hf (List.forall_mem_cons.mpr ⟨hp d (List.mem_cons_self ..), hs⟩)
  | case5 is stack dfr ih => exact ih (noEscapingDtor_tail hp) hf hs
  | case6 e' is stack dfr hu => exact absurd hu (unwind_ne_none stack hs dfr)
  | case7 => cases hf; rfl
  | case8 is dfr ih => exact ih (noEscapingDtor_tail hp) hf hs
  | case9 is dfr rest ih => exact ih (noEscapingDtor_tail hp) hf (List.forall_mem_cons.mp hs).2
  | case10 is dfr e rest ih => exact ih (noEscapingDtor_tail hp) hf (List.forall_mem_cons.mp hs).2
  | case11 is dfr e rest => cases hs _ (List.mem_cons_self ..)

/-- once an error is deferred and no step fails, the call cannot complete normally -/
theorem deferred_never_completes (prog : List Instr) (hf : firstFailure prog = none) :
    ∀ stack dfr, dfr ≠ none → exec prog stack dfr ≠ .completed := by
  intro stack dfr hd
  fun_induction exec prog stack dfr with
  | case1 stack dfr hu => rw [hu]; nofun
  | case2 stack _ e hu => rw [hu]; nofun
  | case3 => exact absurd rfl hd
  | case4 d is stack dfr ih => exact ih hf hd
  | case5 is stack dfr ih => exact ih hf hd
  | case6 | case7 => cases hf
  | case8 is dfr ih => exact ih hf hd
  | case9 is dfr rest ih => exact ih hf hd
  | case10 is dfr e rest ih => exact ih hf (deferError_ne_none dfr e)
  | case11 => nofun

/-- **A deferred error surfaces too**: when no step fails, the call returns normally ONLY IF nothing at all failed —
    no error was pending and the work of every destructor, of the scopes already open and of every scope the
    program opens, succeeded. (Scopes with fallible destructors are closed before `Finalize()`: `endsClean`.) -/
theorem deferred_error_surfaces (prog : List Instr) (hf : firstFailure prog = none) :
    ∀ stack dfr, endsClean prog stack = true → exec prog stack dfr = .completed →
      dfr = none ∧ (∀ d ∈ stack, d = .clean) ∧ (∀ d, Instr.openScope d ∈ prog → d = .clean) := by
  intro stack dfr hc hex
  fun_induction exec prog stack dfr with
  | case1 stack dfr hu => rw [hu] at hex; cases hex
  | case2 stack _ e hu => rw [hu] at hex; cases hex
  | case3 stack _ hu => exact ⟨rfl, by simpa [endsClean] using hc, nofun⟩
  | case4 d is stack dfr ih =>
    obtain ⟨h1, h2, h3⟩ := ih hf hc hex
    obtain ⟨hd, h2⟩ := List.forall_mem_cons.mp h2
    exact ⟨h1, h2, fun x hx => by
      rcases List.mem_cons.mp hx with hx | hx
      · cases hx; exact hd
      · exact h3 x hx⟩
  | case5 is stack dfr ih =>
    obtain ⟨h1, h2, h3⟩ := ih hf hc hex
    exact ⟨h1, h2, fun x hx => h3 x ((List.mem_cons.mp hx).resolve_left nofun)⟩
  | case6 | case7 => cases hf
  | case8 is dfr ih =>
    obtain ⟨h1, h2, h3⟩ := ih hf hc hex
    exact ⟨h1, h2, fun x hx => h3 x ((List.mem_cons.mp hx).resolve_left nofun)⟩
  | case9 is dfr rest ih =>
    obtain ⟨h1, h2, h3⟩ := ih hf hc hex
    exact ⟨h1, List.forall_mem_cons.mpr ⟨rfl, h2⟩, fun x hx => h3 x ((List.mem_cons.mp hx).resolve_left nofun)⟩
  | case10 is dfr e rest ih => exact absurd hex (deferred_never_completes is hf rest _ (deferError_ne_none dfr e))
  | case11 => cases hex

theorem unwind_mem (stack : List Dtor) : ∀ dfr dfr' x, unwind stack dfr = some dfr' → dfr' = some x →
    dfr = some x ∨ Dtor.defers x ∈ stack := by
  intro dfr dfr' x h hx
  fun_induction unwind stack dfr with
  | case1 dfr => cases h; exact .inl hx
  | case2 rest dfr ih => exact (ih h).imp_right (List.mem_cons_of_mem _)
  | case3 e rest dfr ih =>
    rcases ih h with h' | h'
    · cases dfr with
      | none => cases h'; exact .inr (List.mem_cons_self ..)
      | some y => exact .inl h'
    · exact .inr (List.mem_cons_of_mem _ h')
  | case4 => cases h

/-- **Nothing is invented**: an exception that reaches the caller was raised by a step of the program, by the work of
    one of its destructors, or was already pending. -/
theorem exception_is_genuine (prog : List Instr) :
    ∀ stack dfr e, exec prog stack dfr = .exception e →
      dfr = some e ∨ Instr.step (some e) ∈ prog ∨ Instr.openScope (.defers e) ∈ prog ∨ Dtor.defers e ∈ stack := by
  intro stack dfr e h
  -- what holds of the rest of the program holds of the program, once the pending scopes are accounted for
  have rest {i : Instr} {is : List Instr} {dfr' : Option Nat} {stack' : List Dtor} {A D : Prop}
      (ih : dfr' = some e ∨ Instr.step (some e) ∈ is ∨ Instr.openScope (.defers e) ∈ is ∨ Dtor.defers e ∈ stack')
      (ha : dfr' = some e → A ∨ D) (hd : Dtor.defers e ∈ stack' → Instr.openScope (.defers e) ∈ i :: is ∨ D) :
      A ∨ Instr.step (some e) ∈ i :: is ∨ Instr.openScope (.defers e) ∈ i :: is ∨ D := by
    rcases ih with h | h | h | h
    · exact (ha h).imp_right fun d => .inr (.inr d)
    · exact .inr (.inl (List.mem_cons_of_mem _ h))
    · exact .inr (.inr (.inl (List.mem_cons_of_mem _ h)))
    · exact .inr (.inr (hd h))
  fun_induction exec prog stack dfr with
  | case1 stack dfr hu => rw [hu] at h; cases h
  | case2 stack _ e' hu => rw [hu] at h; cases h; exact .inl rfl
  | case3 stack _ hu => rw [hu] at h; cases h
  | case4 d is stack dfr ih =>
    exact rest (ih h) .inl fun hd => (List.mem_cons.mp hd).imp (fun (hd : Dtor.defers e = d) => hd ▸ List.mem_cons_self ..) id
  | case5 is stack dfr ih => exact rest (ih h) .inl .inr
  | case6 => cases h
  | case7 => cases h; exact .inr (.inl (List.mem_cons_self ..))
  | case8 is dfr ih => exact rest (ih h) .inl .inr
  | case9 is dfr rest' ih => exact rest (ih h) .inl fun hd => .inr (List.mem_cons_of_mem _ hd)
  | case10 is dfr e' rest' ih =>
    refine rest (ih h) (fun hd => ?_) fun hd => .inr (List.mem_cons_of_mem _ hd)
    cases dfr with
    | none => cases hd; exact .inr (List.mem_cons_self ..)
    | some y => exact .inl hd
  | case11 => cases h

/-- the hypothesis is necessary — why an exception leaving a destructor is fatal: a scope whose destructor lets its
    error escape ends in `terminate` when it is closed normally (`std::optional<T>::~optional()` is noexcept) and when it
    is destroyed while another exception unwinds the stack (the two repaired findings); the same faults with a
    deferring destructor give the caller an exception -/
theorem throwing_dtor_terminates :
    exec [.openScope (.throws 1), .step (some 7)] [] none = .terminate ∧
    exec [.openScope (.throws 1), .closeScope] [] none = .terminate ∧
    exec [.openScope (.defers 1), .step (some 7)] [] none = .exception 7 ∧
    exec [.openScope (.defers 1), .closeScope] [] none = .exception 1 := by decide +kernel

/-- only the FIRST deferred error is kept (the later ones are consequences of the first) -/
theorem first_deferred_error_is_kept :
    exec [.openScope (.defers 1), .openScope (.defers 2), .closeScope, .step none, .closeScope] [.clean] none = .exception 2 ∧
    exec [.openScope (.defers 1), .closeScope, .openScope (.defers 2), .closeScope] [.clean] none = .exception 1 := by decide +kernel

open BSVerif.Generated.Inventory

/-- **No destructor of the library can let an exception escape**: in every user-provided destructor, every call that
    may throw (transitively) sits inside a `try` with a catch-all handler that does not rethrow. This discharges the
    hypothesis `noEscapingDtor` of the theorems above for the real code; a throwing call added to any destructor, or
    a removed try/catch, makes this theorem false by name. -/
theorem dtors_cannot_let_exceptions_escape : dtors.all (fun d => d.2.isEmpty) = true := by
  rfl

/-- the destructors that have fallible work and defer its error to `Finalize()`: the CSV row flush, the MsgPack
    unread-member skip, the MsgPack unread-element skip and the MsgPack unread-byte skip of the binary scope — the
    `Dtor.defers` scopes of the machine -/
theorem deferring_dtors_are_the_four_scopes :
    dtorsDeferred.filter (fun d => !d.2.isEmpty) =
      [("BitSerializer::Csv::Detail::CCsvWriteObjectScope::~CCsvWriteObjectScope", ["NextLine"]),
       ("BitSerializer::MsgPack::Detail::CMsgPackReadArrayScope::~CMsgPackReadArrayScope", ["SkipValue"]),
       ("BitSerializer::MsgPack::Detail::CMsgPackReadBinaryScope::~CMsgPackReadBinaryScope", ["ReadBinary"]),
       ("BitSerializer::MsgPack::Detail::CMsgPackReadObjectScope::~CMsgPackReadObjectScope", ["ResetKey", "SkipValue"])] := by
  rfl

/-- the user-provided destructors of the library: the four scopes above, the scope base class (parent notification),
    the four root scopes (owning `delete` of the reader/writer) and the interface/base destructors -/
theorem dtor_inventory :
    dtors.map (·.1) =
      ["BitSerializer::Csv::Detail::CCsvWriteObjectScope::~CCsvWriteObjectScope",
       "BitSerializer::Csv::Detail::CsvReadRootScope::~CsvReadRootScope",
       "BitSerializer::Csv::Detail::CsvWriteRootScope::~CsvWriteRootScope",
       "BitSerializer::Csv::Detail::ICsvReader::~ICsvReader",
       "BitSerializer::Csv::Detail::ICsvWriter::~ICsvWriter",
       "BitSerializer::MsgPack::Detail::CMsgPackReadArrayScope::~CMsgPackReadArrayScope",
       "BitSerializer::MsgPack::Detail::CMsgPackReadBinaryScope::~CMsgPackReadBinaryScope",
       "BitSerializer::MsgPack::Detail::CMsgPackReadObjectScope::~CMsgPackReadObjectScope",
       "BitSerializer::MsgPack::Detail::CMsgPackScopeBase::~CMsgPackScopeBase",
       "BitSerializer::MsgPack::Detail::CVariableKey::~CVariableKey",
       "BitSerializer::MsgPack::Detail::IMsgPackReader::~IMsgPackReader",
       "BitSerializer::MsgPack::Detail::IMsgPackWriter::~IMsgPackWriter",
       "BitSerializer::MsgPack::Detail::MsgPackReadRootScope::~MsgPackReadRootScope",
       "BitSerializer::MsgPack::Detail::MsgPackWriteRootScope::~MsgPackWriteRootScope"] := by
  rfl

section Csv
open BSVerif.Csv BSVerif.Csv.Archive BSVerif.Csv.Writer

/-- **A ragged CSV table still ends in its SerializationException** (and every other table in exactly the same text):
    deferring the row error from the destructor to `Finalize()` changes nothing the caller can observe, for every
    separator and every list of objects. The CSV theorems (C09) are stated for `Archive.saveString/saveStream`, which end
    at the first `NextLine` error; the code goes on (the destructor defers the error, the remaining rows are written,
    `Finalize()` rethrows the first error). -/
theorem csv_deferred_save_eq (sep : Nat) (objs : List (List KV)) :
    saveStringDeferred sep objs = Archive.saveString sep objs ∧ saveStreamDeferred sep objs = Archive.saveStream sep objs :=
  ⟨congrArg (validateSeparator sep >>= fun _ => ·) (stringRows_deferred_eq (·.out) objs _),
    congrArg (validateSeparator sep >>= fun _ => ·) (streamRows_deferred_eq (·.stream) objs _)⟩

-- the ragged table of `fault.midsave csv_ragged_*` (rows {x=2}, {x=3, extra=1}): rejected, not terminated
example : saveStringDeferred 44 [[([120], [50])], [([120], [51]), ([101], [49])]] = .error .serOutOfRange := by rfl

end Csv

-- a session in which a destructor's work fails during a normal close AND a step fails later: hypotheses hold
example : noEscapingDtor [.openScope .clean, .step none, .openScope (.defers 4), .closeScope, .step (some 3), .closeScope] ∧
    firstFailure [.openScope .clean, .step none, .openScope (.defers 4), .closeScope, .step (some 3), .closeScope] = some 3 := by
  refine ⟨?_, rfl⟩
  intro d hd; simp at hd; rcases hd with rfl | rfl <;> rfl

-- a session without failing step whose scopes are all closed before Finalize()
example : firstFailure [.openScope (.defers 4), .step none, .closeScope] = none ∧
    endsClean [.openScope (.defers 4), .step none, .closeScope] [.clean] = true ∧
    exec [.openScope (.defers 4), .step none, .closeScope] [.clean] none = .exception 4 := by decide +kernel

end BSVerif.Props.C20
