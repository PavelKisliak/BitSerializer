/-
  The cursor of CMsgPackReadObjectScope over an arbitrary object layout `pre ++ (k₀ v₀ … kₙ₋₁ vₙ₋₁) ++ post` of
  complete values: its invariant, the correctness of FindValueByKey (cyclic scan with wrap-around), of
  SerializeValue(key, …), of array and binary scopes opened under a key, and of the destructor's skip loop.
  "Cursor" is the IMPLEMENTATION state here (`mIndex`, `mCurrentKey`, reader position; invariant `Inv`); the `Cursor` of
  BinStream is an abstract specification. Defined here for the property statements: `Layout` (`WF`, `ArrWF`), `keyAt`,
  `Inv`, the composites `objReadArr`, `objReadBin` and their abstract outcomes `ArrOutcome`, `BinOutcome`.
  `_at` in a name: the reader stands at entry `i` of the layout (`r.pos = L.posOf i`, or one further, at the value); in
  Scope/Lemmas.lean it announces a hypothesis on `r.rest`.
-/
import BSVerif.Scope.Lemmas

namespace BSVerif.Scope

/-- one object in a document: `pre` is everything before its first key (in a document, up to and including the map
    header), `post` whatever follows its last value -/
structure Layout where
  pre : List Tok
  entries : List (Key × List Tok)
  post : List Tok

def Layout.enc (e : Key × List Tok) : List Tok := keyTok e.1 :: e.2
def Layout.body (L : Layout) : List Tok := L.entries.flatMap Layout.enc
def Layout.doc (L : Layout) : List Tok := L.pre ++ L.body ++ L.post
def Layout.size (L : Layout) : Nat := L.entries.length
/-- token index of the key of entry `i` -/
def Layout.posOf (L : Layout) (i : Nat) : Nat := L.pre.length + ((L.entries.take i).flatMap Layout.enc).length
def Layout.WF (L : Layout) : Prop := ∀ e ∈ L.entries, WFv e.2

theorem Layout.drop_posOf (L : Layout) (i : Nat) :
    L.doc.drop (L.posOf i) = (L.entries.drop i).flatMap Layout.enc ++ L.post := by
  have hb : L.body = (L.entries.take i).flatMap Layout.enc ++ (L.entries.drop i).flatMap Layout.enc := by
    rw [← List.flatMap_append, List.take_append_drop]; rfl
  rw [Layout.doc, Layout.posOf, hb, ← List.length_append, ← List.append_assoc, List.append_assoc, List.drop_left]

theorem Layout.posOf_succ (L : Layout) {i : Nat} {e : Key × List Tok} (h : L.entries[i]? = some e) :
    L.posOf (i + 1) = L.posOf i + 1 + e.2.length := by
  unfold Layout.posOf
  have : L.entries.take (i + 1) = L.entries.take i ++ [e] := by
    rw [List.take_add_one, h]; simp
  rw [this, List.flatMap_append]
  simp [Layout.enc]; omega

theorem drop_entry {L : Layout} {i : Nat} {e : Key × List Tok} (h : L.entries[i]? = some e) :
    (L.entries.drop i).flatMap Layout.enc = keyTok e.1 :: (e.2 ++ (L.entries.drop (i + 1)).flatMap Layout.enc) := by
  obtain ⟨hlt, rfl⟩ := List.getElem?_eq_some_iff.mp h
  rw [List.drop_eq_getElem_cons hlt, List.flatMap_cons]
  rfl

theorem rest_at {L : Layout} (r : Rd) (hdoc : r.doc = L.doc) {i : Nat} (hpos : r.pos = L.posOf i) :
    r.rest = (L.entries.drop i).flatMap Layout.enc ++ L.post := by
  unfold Rd.rest; rw [hdoc, hpos, L.drop_posOf]

section
variable {L : Layout} (r : Rd) (hdoc : r.doc = L.doc) {i : Nat} {e : Key × List Tok} (h : L.entries[i]? = some e)
include hdoc h

theorem rest_at_key (hpos : r.pos = L.posOf i) :
    r.rest = keyTok e.1 :: (e.2 ++ (L.entries.drop (i + 1)).flatMap Layout.enc ++ L.post) := by
  rw [rest_at r hdoc hpos, drop_entry h]; rfl

theorem rest_at_value (hpos : r.pos = L.posOf i + 1) :
    r.rest = e.2 ++ ((L.entries.drop (i + 1)).flatMap Layout.enc ++ L.post) := by
  unfold Rd.rest
  rw [hdoc, hpos, ← List.drop_drop, L.drop_posOf, drop_entry h]
  simp

theorem readKey_at (hpos : r.pos = L.posOf i) : r.readKey = .ok (e.1, { r with pos := L.posOf i + 1 }) := by
  rw [readKey_of_rest (rest_at_key r hdoc h hpos), hpos]

theorem skipValue_at_key (hpos : r.pos = L.posOf i) : r.skipValue = .ok { r with pos := L.posOf i + 1 } := by
  rw [skipValue_of_rest (v := [keyTok e.1]) (rest_at_key r hdoc h hpos) (wfv_scalar _ (keyTok_children _)), hpos]
  rfl

theorem skipValue_at_value (hwf : L.WF) (hpos : r.pos = L.posOf i + 1) :
    r.skipValue = .ok { r with pos := L.posOf (i + 1) } := by
  rw [skipValue_of_rest (rest_at_value r hdoc h hpos) (hwf e (List.mem_of_getElem? h)), hpos, L.posOf_succ h]

end

/-- the object scope `o` over reader `r` sits at entry `i` of layout `L`
    (`c = some k`: the key of entry `i` has been read and is `k`, the reader is at its value) -/
structure ObjAt (L : Layout) (o : Obj) (r : Rd) (i : Nat) (c : Option Key) : Prop where
  doc : r.doc = L.doc
  start : o.start = L.posOf 0
  size : o.size = L.size
  index : o.index = i
  cur : o.cur = c
  pos : r.pos = L.posOf i + (if c.isSome then 1 else 0)

/-- same, but saying nothing about `mCurrentKey` (the scan loop overwrites it before reading it) -/
structure ObjPos (L : Layout) (o : Obj) (r : Rd) (i : Nat) : Prop where
  doc : r.doc = L.doc
  start : o.start = L.posOf 0
  size : o.size = L.size
  index : o.index = i
  pos : r.pos = L.posOf i

theorem ObjAt.toPos {L : Layout} {o : Obj} {r : Rd} {i : Nat} (h : ObjAt L o r i none) : ObjPos L o r i :=
  ⟨h.doc, h.start, h.size, h.index, by simpa using h.pos⟩

theorem ObjPos.toAt {L : Layout} {o : Obj} {r : Rd} {i : Nat} (h : ObjPos L o r i) :
    ObjAt L { o with cur := none } r i none :=
  ⟨h.doc, h.start, h.size, h.index, rfl, by simpa using h.pos⟩

def keyAt (L : Layout) (j : Nat) : Option Key := (L.entries[j]?).map (·.1)

theorem keyAt_some {L : Layout} {i : Nat} {k : Key} (h : keyAt L i = some k) :
    ∃ e, L.entries[i]? = some e ∧ e.1 = k ∧ i < L.size := by
  obtain ⟨e, he, hk⟩ := Option.map_eq_some_iff.mp h
  exact ⟨e, he, hk, (List.getElem?_eq_some_iff.mp he).1⟩

theorem keyAt_of_size_le {L : Layout} {m : Nat} (h : L.size ≤ m) (key : Key) : keyAt L m ≠ some key := by
  simp [keyAt, List.getElem?_eq_none h]

/-- linear part of the key scan: entries `i … i+f-1`, no wrap-around -/
theorem findLoop_linear (L : Layout) (hwf : L.WF) (key : Key) (f : Nat) :
    ∀ (i : Nat) (o : Obj) (r : Rd), i + f ≤ L.size → ObjPos L o r i →
    (∃ m o' r', i ≤ m ∧ m < i + f ∧ keyAt L m = some key ∧
      findLoop key f o r = .ok (true, o', r') ∧ ObjAt L o' r' m (some key) ∧ r'.mis = r.mis) ∨
    ((∀ m, i ≤ m → m < i + f → keyAt L m ≠ some key) ∧
      ∃ o' r', findLoop key f o r = .ok (false, o', r') ∧ ObjAt L o' r' (i + f) none ∧ r'.mis = r.mis) := by
  induction f with
  | zero => intro i o r _ h; exact .inr ⟨fun m h1 h2 => by omega, _, _, rfl, h.toAt, rfl⟩
  | succ f ih =>
    intro i o r hle h
    have hlt : i < L.entries.length := by unfold Layout.size at hle; omega
    obtain ⟨e, he⟩ : ∃ e, L.entries[i]? = some e := ⟨L.entries[i], by simp [hlt]⟩
    have hka : keyAt L i = some e.1 := by simp [keyAt, he]
    have hnw : ¬ (o.index = o.size) := by rw [h.index, h.size]; unfold Layout.size; omega
    unfold findLoop
    simp only [hnw, if_false, readKey_at r h.doc he h.pos, bind, Except.bind]
    by_cases hk : e.1 = key
    · -- entry `i` has the key: found, the reader stands at its value
      simp only [hk, if_true]
      have hat : ObjAt L { o with cur := some key } { r with pos := L.posOf i + 1 } i (some key) :=
        { doc := h.doc, start := h.start, size := h.size, index := h.index, cur := rfl, pos := by simp }
      exact .inl ⟨i, _, _, Nat.le_refl _, by omega, hk ▸ hka, rfl, hat, rfl⟩
    · -- another key: its value is skipped and the scan goes on at entry `i + 1`
      have hsk := skipValue_at_value { r with pos := L.posOf i + 1 } h.doc he hwf rfl
      simp only [hk, if_false, hsk]
      have h' : ObjPos L { o with cur := some e.1, index := o.index + 1 } { r with pos := L.posOf (i + 1) } (i + 1) :=
        ⟨h.doc, h.start, h.size, by simp [h.index], rfl⟩
      rw [show i + (f + 1) = i + 1 + f by omega]
      rcases ih (i + 1) _ _ (by omega) h' with ⟨m, o', r', h1, h2⟩ | ⟨hno, h3⟩
      · exact .inl ⟨m, o', r', by omega, h2⟩
      · refine .inr ⟨fun m h1 h2 hm => ?_, h3⟩
        rcases Nat.eq_or_lt_of_le h1 with rfl | h1
        · exact hk (Option.some.inj (hka.symm.trans hm))
        · exact hno m h1 h2 hm

theorem findLoop_cur_irrelevant (key : Key) (f : Nat) (o : Obj) (c : Option Key) (r : Rd) :
    findLoop key f { o with cur := c } r = findLoop key f o r := by
  cases f with
  | zero => simp [findLoop]
  | succ f => simp only [findLoop]; split <;> rfl

theorem findLoop_add (key : Key) (a b : Nat) : ∀ (o : Obj) (r : Rd),
    findLoop key (a + b) o r =
      (match findLoop key a o r with
       | .ok (true, o', r') => .ok (true, o', r')
       | .ok (false, o', r') => findLoop key b o' r'
       | .error e => .error e) := by
  induction a with
  | zero =>
    intro o r
    simp only [Nat.zero_add, findLoop]
    exact (findLoop_cur_irrelevant key b o none r).symm
  | succ a ih =>
    intro o r
    rw [show a + 1 + b = (a + b) + 1 by omega]
    simp only [findLoop, bind, Except.bind]
    -- both sides start with the same iteration (wrap-around, `ReadKey`, comparison, `SkipValue`): by its outcomes
    split
    · rfl -- `ReadKey` raises
    · split
      · rfl -- the key is found
      · split
        · rfl -- `SkipValue` raises
        · exact ih _ _

theorem findLoop_wrap (key : Key) (f : Nat) (o : Obj) (r : Rd) (h1 : o.index = o.size) (h2 : o.size ≠ 0) :
    findLoop key (f + 1) o r = findLoop key (f + 1) { o with index := 0 } { r with pos := o.start } := by
  have h3 : ¬ ((0 : Nat) = o.size) := fun h => h2 h.symm
  simp only [findLoop, h1, if_true, h3, if_false]

theorem findLoop_cyclic (L : Layout) (hwf : L.WF) (key : Key) (j : Nat) (hj : j ≤ L.size) (o : Obj) (r : Rd)
    (h : ObjPos L o r j) :
    ∃ b o' r', findLoop key L.size o r = .ok (b, o', r') ∧ r'.mis = r.mis ∧
      (b = true → ∃ m, keyAt L m = some key ∧ ObjAt L o' r' m (some key)) ∧
      (b = false → (∀ m, keyAt L m ≠ some key) ∧ ∃ j', j' ≤ L.size ∧ ObjAt L o' r' j' none) := by
  -- entries `j … size-1`, then (after the wrap-around) entries `0 … j-1`
  have hadd := findLoop_add key (L.size - j) j o r
  rw [Nat.sub_add_cancel hj] at hadd
  rw [hadd]
  rcases findLoop_linear L hwf key (L.size - j) j o r (by omega) h with
    ⟨m, o', r', _, _, hk, e1, hat, hm⟩ | ⟨hno1, o1, r1, e1, e2, e3⟩
  · rw [e1]
    exact ⟨true, o', r', rfl, hm, fun _ => ⟨m, hk, hat⟩, nofun⟩
  · rw [e1]
    rw [show j + (L.size - j) = L.size by omega] at e2
    have hno1' : ∀ m, j ≤ m → keyAt L m ≠ some key := fun m hm =>
      if h : m < L.size then hno1 m hm (by omega) else keyAt_of_size_le (by omega) key
    simp only
    cases j with
    | zero =>
      -- the scan started at entry 0 and has seen every entry; no iterations are left
      exact ⟨false, _, r1, rfl, e3, nofun, fun _ => ⟨fun m => hno1' m (Nat.zero_le _), L.size, Nat.le_refl _, e2.toPos.toAt⟩⟩
    | succ j' =>
      -- `mIndex = mSize`: back to the first entry, and a second linear scan over entries `0 … j'`
      rw [findLoop_wrap key j' o1 r1 (by rw [e2.index, e2.size]) (by rw [e2.size]; omega)]
      have hp : ObjPos L { o1 with index := 0 } { r1 with pos := o1.start } 0 := ⟨e2.doc, e2.start, e2.size, rfl, e2.start⟩
      rcases findLoop_linear L hwf key (j' + 1) 0 _ _ (by omega) hp with
        ⟨m, o', r', _, _, hk, f1, hat, f3⟩ | ⟨hno2, o', r', f1, f2, f3⟩
      · exact ⟨true, o', r', f1, f3.trans e3, fun _ => ⟨m, hk, hat⟩, nofun⟩
      · refine ⟨false, o', r', f1, f3.trans e3, nofun, fun _ => ⟨fun m => ?_, 0 + (j' + 1), by omega, f2⟩⟩
        -- entry `m` was seen by the second scan or by the first
        by_cases hm : m < j' + 1
        · exact hno2 m (Nat.zero_le _) (by omega)
        · exact hno1' m (by omega)

/-- invariant of the object scope cursor (`mIndex`, `mCurrentKey`, reader position) -/
def Inv (L : Layout) (o : Obj) (r : Rd) : Prop :=
  ∃ i c, ObjAt L o r i c ∧ i ≤ L.size ∧ (∀ k, c = some k → keyAt L i = some k)

theorem resetKey_spec (L : Layout) (hwf : L.WF) (o : Obj) (r : Rd) (hinv : Inv L o r) :
    ∃ i o' r', resetKey o r = .ok (o', r') ∧ i ≤ L.size ∧ ObjPos L o' r' i ∧ r'.mis = r.mis := by
  obtain ⟨i, c, hat, hi, hc⟩ := hinv
  cases c with
  | none => exact ⟨i, o, r, by simp only [resetKey, hat.cur]; rfl, hi, hat.toPos, rfl⟩
  | some k =>
    obtain ⟨e, he, _, hlt⟩ := keyAt_some (hc k rfl)
    have hsk := skipValue_at_value r hat.doc he hwf (by simpa using hat.pos)
    exact ⟨i + 1, { o with cur := none, index := o.index + 1 }, { r with pos := L.posOf (i + 1) },
      by simp only [resetKey, hat.cur, hsk, bind, Except.bind]; rfl, hlt,
      ⟨hat.doc, hat.start, hat.size, by simp [hat.index], rfl⟩, rfl⟩

theorem findValueByKey_spec (L : Layout) (hwf : L.WF) (key : Key) (o : Obj) (r : Rd) (hinv : Inv L o r) :
    ∃ b o' r', findValueByKey key o r = .ok (b, o', r') ∧ r'.mis = r.mis ∧
      (b = true → ∃ m, keyAt L m = some key ∧ ObjAt L o' r' m (some key)) ∧
      (b = false → (∀ m, keyAt L m ≠ some key) ∧ ∃ j', j' ≤ L.size ∧ ObjAt L o' r' j' none) := by
  obtain ⟨i, c, hat, hi, hc⟩ := hinv
  unfold findValueByKey
  rw [hat.cur]
  cases c with
  | none =>
    simp only
    rw [hat.size]
    exact findLoop_cyclic L hwf key i hi o r hat.toPos
  | some k =>
    simp only
    by_cases hk : k = key
    · subst hk
      simp only [if_true]
      exact ⟨true, o, r, rfl, rfl, fun _ => ⟨i, hc k rfl, hat⟩, nofun⟩
    · obtain ⟨j, o1, r1, h1, hj, hp, hm⟩ := resetKey_spec L hwf o r ⟨i, some k, hat, hi, hc⟩
      simp only [hk, if_false, h1, bind, Except.bind]
      rw [hp.size, ← hm]
      exact findLoop_cyclic L hwf key j hj o1 r1 hp

/-- `FindValueByKey(key)` under the invariant, as the callers need it: either the reader stands in front of the complete
    value `e.2` stored under `key` — and the invariant holds again once a reader stands behind that value and the
    scope has been told (`OnFinishChildScope`) — or no entry has that key -/
theorem find_cases (L : Layout) (hwf : L.WF) (key : Key) (o : Obj) (r : Rd) (hinv : Inv L o r) :
    (∃ (m : Nat) (e : Key × List Tok) (o1 : Obj) (r1 : Rd) (rest : List Tok), L.entries[m]? = some e ∧ e.1 = key ∧
      findValueByKey key o r = .ok (true, o1, r1) ∧ r1.mis = r.mis ∧ r1.rest = e.2 ++ rest ∧ WFv e.2 ∧ Inv L o1 r1 ∧
      (∀ r' : Rd, r'.doc = r1.doc → r'.pos = r1.pos + e.2.length → Inv L o1.onFinishChild r')) ∨
    ((∀ m, keyAt L m ≠ some key) ∧
      ∃ o1 r1, findValueByKey key o r = .ok (false, o1, r1) ∧ Inv L o1 r1 ∧ r1.mis = r.mis) := by
  obtain ⟨b, o1, r1, hf, hmis, ht, hfalse⟩ := findValueByKey_spec L hwf key o r hinv
  cases b with
  | true =>
    obtain ⟨m, hk, hat⟩ := ht rfl
    obtain ⟨e, he, hek, hlt⟩ := keyAt_some hk
    have hpos : r1.pos = L.posOf m + 1 := by simpa using hat.pos
    have hinv1 : Inv L o1 r1 := ⟨m, some key, hat, by omega, fun k hk' => by cases hk'; exact hk⟩
    -- behind the value, and told so, the scope stands at entry `m + 1` with no current key
    have hnext : ∀ r' : Rd, r'.doc = r1.doc → r'.pos = r1.pos + e.2.length → Inv L o1.onFinishChild r' := fun r' hd hp =>
      ⟨m + 1, none,
        { doc := hd.trans hat.doc, start := hat.start, size := hat.size, index := by simp [Obj.onFinishChild, hat.index],
          cur := rfl, pos := by rw [hp, hpos, L.posOf_succ he]; simp },
        by omega, nofun⟩
    exact .inl ⟨m, e, o1, r1, _, he, hek, hf, hmis, rest_at_value r1 hat.doc he hpos, hwf e (List.mem_of_getElem? he),
      hinv1, hnext⟩
  | false =>
    obtain ⟨hno, j', hj', hat⟩ := hfalse rfl
    exact .inr ⟨hno, o1, r1, hf, ⟨j', none, hat, hj', nofun⟩, hmis⟩

/-- **`SerializeValue(key, value)` on an object scope**, any cursor state satisfying the invariant:
    the answer is the abstract answer for the value stored under `key` (or "not loaded" when no
    entry has that key), and the invariant is re-established. -/
theorem objGet_spec (L : Layout) (hwf : L.WF) (key : Key) (ty : Ty) (o : Obj) (r : Rd) (hinv : Inv L o r) :
    (∃ (m : Nat) (e : Key × List Tok), L.entries[m]? = some e ∧ e.1 = key ∧
      (match valueAnswer r.mis ty e.2 with
       | .ok a => ∃ o' r', objGet key ty o r = .ok (a, o', r') ∧ Inv L o' r' ∧ r'.mis = r.mis
       | .error err => objGet key ty o r = .error err)) ∨
    ((∀ m, keyAt L m ≠ some key) ∧ ∃ o' r', objGet key ty o r = .ok (none, o', r') ∧ Inv L o' r' ∧ r'.mis = r.mis) := by
  rcases find_cases L hwf key o r hinv with
    ⟨m, e, o1, r1, rest, he, hek, hf, hmis, hrest, hw, -, hnext⟩ | ⟨hno, o1, r1, hf, hinv', hmis⟩
  · refine .inl ⟨m, e, he, hek, ?_⟩
    rw [← hmis]
    simp only [objGet, hf, bind, Except.bind, if_true, readValue_of_rest hrest hw ty]
    cases valueAnswer r1.mis ty e.2 with
    | ok a => exact ⟨_, _, rfl, hnext _ rfl rfl, rfl⟩
    | error err => rfl
  · exact .inr ⟨hno, o1, r1, by simp only [objGet, hf, bind, Except.bind]; rfl, hinv', hmis⟩

theorem closeLoop_spec (L : Layout) (hwf : L.WF) : ∀ (f i : Nat) (o : Obj) (r : Rd), i + f = L.size → ObjPos L o r i →
    ∃ o' r', closeLoop f o r = .ok (o', r') ∧ ObjPos L o' r' L.size ∧ r'.mis = r.mis := by
  intro f
  induction f with
  | zero =>
    intro i o r hif h
    have : i = L.size := by omega
    subst this
    exact ⟨o, r, rfl, h, rfl⟩
  | succ f ih =>
    intro i o r hif h
    have hlt : i < L.entries.length := by unfold Layout.size at hif; omega
    obtain ⟨e, he⟩ : ∃ e, L.entries[i]? = some e := ⟨L.entries[i], by simp [hlt]⟩
    have h1 := skipValue_at_key r h.doc he h.pos
    have h2 := skipValue_at_value { r with pos := L.posOf i + 1 } h.doc he hwf rfl
    simp only [closeLoop, h1, h2, bind, Except.bind]
    exact ih (i + 1) _ _ (by omega) ⟨h.doc, h.start, h.size, by simp [h.index], rfl⟩

/-- **Closing an object scope** (its destructor) from any cursor state leaves the reader exactly behind
    the object — whatever was requested, in whatever order, and whatever was never requested. -/
theorem objClose_spec (L : Layout) (hwf : L.WF) (o : Obj) (r : Rd) (hinv : Inv L o r) :
    ∃ o' r', objClose o r = .ok (o', r') ∧ r'.pos = L.posOf L.size ∧ r'.doc = r.doc ∧ r'.mis = r.mis ∧
      r'.rest = L.post := by
  obtain ⟨i, o1, r1, h1, hi, hp, hm⟩ := resetKey_spec L hwf o r hinv
  obtain ⟨o', r', h2, h3, h4⟩ := closeLoop_spec L hwf (o1.size - o1.index) i o1 r1 (by rw [hp.size, hp.index]; omega) hp
  obtain ⟨_, _, hat, _⟩ := hinv
  refine ⟨o', r', by simp only [objClose, h1, bind, Except.bind, h2], h3.pos, h3.doc.trans hat.doc.symm, h4.trans hm, ?_⟩
  rw [rest_at r' h3.doc h3.pos, Layout.size, List.drop_length]
  rfl

/-- `OpenArrayScope(key)` on an object scope, `SerializeValue` for each kind of `tys` on the array scope, and the
    destruction of the array scope wherever it then stands (`none`: the scope was not opened: absent key, nil, or a
    value of another kind under the Skip policy) -/
def objReadArr (key : Key) (tys : List Ty) (o : Obj) (r : Rd) : Except Err (Option (List (Option Sc)) × Obj × Rd) :=
  match findValueByKey key o r with
  | .error e => .error e
  | .ok (false, o1, r1) => .ok (none, o1, r1)
  | .ok (true, o1, r1) =>
    match r1.readArraySize with
    | .error e => .error e
    | .ok (none, r2) => .ok (none, o1.onFinishChild, r2)
    | .ok (some n, r2) =>
      match arrReads tys n 0 r2 with
      | .error e => .error e
      | .ok (as, idx, r3) =>
        match arrClose n idx r3 with
        | .error e => .error e      -- deferred to Finalize() by the destructor; impossible on complete values (below)
        | .ok r4 => .ok (some as, o1.onFinishChild, r4)

/-- the complete value `v` is an array of the complete values `items` -/
def IsArr (v : List Tok) (items : List (List Tok)) : Prop :=
  v = .arr items.length :: items.flatten ∧ ∀ w ∈ items, WFv w

/-- every entry whose value starts with an array header is an array of complete values (true of every
    well-formed document; `WFv` alone only says that the value as a whole is skipped exactly) -/
def Layout.ArrWF (L : Layout) : Prop :=
  ∀ e ∈ L.entries, ∀ n ts, e.2 = .arr n :: ts → ∃ items, IsArr e.2 items

/-- the abstract outcome of "open the array stored in the complete value `v`, read `tys`, close it" -/
inductive ArrOutcome (mis : Mis) (tys : List Ty) (v : List Tok) : Except Err (Option (List (Option Sc))) → Prop where
  | arr (items : List (List Tok)) (h : IsArr v items) :
      ArrOutcome mis tys v (match arrAnswer mis tys items with | .ok as => .ok (some as) | .error e => .error e)
  | notArr (t : Tok) (ts : List Tok) (h : v = t :: ts) (hn : ∀ n, t ≠ .arr n) :
      ArrOutcome mis tys v (if t ≠ .nil ∧ mis = .throwError then .error .mismatched else .ok none)

/-- **An array scope under a key, left wherever the caller likes**: the answers are the abstract answers for the
    first elements of the stored array, and — because the destructor skips the elements that were not read — the
    object scope's cursor invariant holds again afterwards -/
theorem objReadArr_spec (L : Layout) (hwf : L.WF) (harr : L.ArrWF) (key : Key) (tys : List Ty) (o : Obj) (r : Rd)
    (hinv : Inv L o r) :
    (∃ (m : Nat) (e : Key × List Tok) (out : Except Err (Option (List (Option Sc)))),
      L.entries[m]? = some e ∧ e.1 = key ∧ ArrOutcome r.mis tys e.2 out ∧
      (match out with
       | .ok a => ∃ o' r', objReadArr key tys o r = .ok (a, o', r') ∧ Inv L o' r' ∧ r'.mis = r.mis
       | .error err => objReadArr key tys o r = .error err)) ∨
    ((∀ m, keyAt L m ≠ some key) ∧ ∃ o' r', objReadArr key tys o r = .ok (none, o', r') ∧ Inv L o' r' ∧ r'.mis = r.mis) := by
  rcases find_cases L hwf key o r hinv with
    ⟨m, e, o1, r1, rest, he, hek, hf, hmis, hrest, hw, -, hnext⟩ | ⟨hno, o1, r1, hf, hinv', hmis⟩
  · left
    rw [← hmis]
    obtain ⟨t, ts, hv⟩ := List.exists_cons_of_ne_nil hw.1
    rw [hv] at hrest hw hnext
    by_cases harrt : ∃ n, t = .arr n
    · obtain ⟨n, rfl⟩ := harrt
      obtain ⟨items, hia⟩ := harr e (List.mem_of_getElem? he) n ts hv
      have hshape := hia.1
      rw [hv] at hshape
      obtain ⟨rfl, rfl⟩ : n = items.length ∧ ts = items.flatten := by
        injection hshape with h1 h2; exact ⟨Tok.arr.inj h1, h2⟩
      refine ⟨m, e, _, he, hek, ArrOutcome.arr items hia, ?_⟩
      have hrest2 : ({ r1 with pos := r1.pos + 1 } : Rd).rest = items.flatten ++ rest :=
        rest_advance (v := [.arr items.length]) hrest
      have hses := arrReads_then_close tys items hia.2 _ rest hrest2
      simp only [objReadArr, hf, readArraySize_arr hrest]
      cases haa : arrAnswer r1.mis tys items with
      | error err => rw [haa] at hses; simp only [hses]
      | ok as =>
        rw [haa] at hses
        obtain ⟨idx, r3, hrd, hcl⟩ := hses
        simp only [hrd, hcl]
        exact ⟨_, _, rfl, hnext _ rfl (by simp only [List.length_cons]; omega), rfl⟩
    · have hn : ∀ n, t ≠ .arr n := fun n h => harrt ⟨n, h⟩
      refine ⟨m, e, _, he, hek, ArrOutcome.notArr t ts hv hn, ?_⟩
      simp only [objReadArr, hf, readArraySize_other hrest hw hn]
      by_cases hthrow : t ≠ .nil ∧ r1.mis = .throwError
      · simp only [if_pos hthrow]
      · simp only [if_neg hthrow]
        exact ⟨_, _, rfl, hnext _ rfl rfl, rfl⟩
  · exact .inr ⟨hno, o1, r1, by simp only [objReadArr, hf], hinv', hmis⟩

/-- `OpenBinaryScope(key)` on an object scope, `k` byte requests on the binary scope, and the destruction of the binary
    scope wherever it then stands (`none`: the scope was not opened: absent key, or a value that is not a `bin` — that
    value is left in place under `mCurrentKey`) -/
def objReadBin (key : Key) (k : Nat) (o : Obj) (r : Rd) : Except Err (Option (List Nat) × Obj × Rd) :=
  match findValueByKey key o r with
  | .error e => .error e
  | .ok (false, o1, r1) => .ok (none, o1, r1)
  | .ok (true, o1, r1) =>
    match r1.isBinary with
    | .error e => .error e
    | .ok false => .ok (none, o1, r1)
    | .ok true =>
      match r1.readBinarySize with
      | .error e => .error e
      | .ok (none, r2) => .ok (none, o1.onFinishChild, r2)
      | .ok (some n, r2) =>
        match binReads k n 0 r2 with
        | .error e => .error e
        | .ok (bs, idx) =>
          match binClose n idx r2 with
          | .error e => .error e      -- deferred to Finalize() by the destructor; impossible on a complete value (below)
          | .ok r3 => .ok (some bs, o1.onFinishChild, r3)

/-- the abstract outcome of "open the complete value `v` as a byte list, read `k` bytes, close it" -/
inductive BinOutcome (k : Nat) (v : List Tok) : Except Err (Option (List Nat)) → Prop where
  | bin (bs : List Nat) (h : v = [.bin bs]) :
      BinOutcome k v (if k ≤ bs.length then .ok (some (bs.take k)) else .error .outOfRange)
  | notBin (t : Tok) (ts : List Tok) (h : v = t :: ts) (hn : ∀ bs, t ≠ .bin bs) : BinOutcome k v (.ok none)

/-- **A binary scope under a key, left wherever the caller likes**: the answers are the first `k` bytes of the stored
    `bin` value (OutOfRange when more bytes are requested than there are), and — because the destructor skips the bytes
    that were not read — the object scope's cursor invariant holds again afterwards. A value that is not a `bin` is left
    in place (the invariant holds with the key still current). -/
theorem objReadBin_spec (L : Layout) (hwf : L.WF) (key : Key) (k : Nat) (o : Obj) (r : Rd) (hinv : Inv L o r) :
    (∃ (m : Nat) (e : Key × List Tok) (out : Except Err (Option (List Nat))),
      L.entries[m]? = some e ∧ e.1 = key ∧ BinOutcome k e.2 out ∧
      (match out with
       | .ok a => ∃ o' r', objReadBin key k o r = .ok (a, o', r') ∧ Inv L o' r' ∧ r'.mis = r.mis
       | .error err => objReadBin key k o r = .error err)) ∨
    ((∀ m, keyAt L m ≠ some key) ∧ ∃ o' r', objReadBin key k o r = .ok (none, o', r') ∧ Inv L o' r' ∧ r'.mis = r.mis) := by
  rcases find_cases L hwf key o r hinv with
    ⟨m, e, o1, r1, rest, he, hek, hf, hmis, hrest, hw, hinv1, hnext⟩ | ⟨hno, o1, r1, hf, hinv', hmis⟩
  · left
    rw [← hmis]
    obtain ⟨t, ts, hv⟩ := List.exists_cons_of_ne_nil hw.1
    rw [hv] at hrest hw hnext
    by_cases hbin : ∃ bs, t = .bin bs
    · -- the value is a `bin`: one token
      obtain ⟨bs, rfl⟩ := hbin
      obtain rfl := wfv_scalar_head hw rfl
      refine ⟨m, e, _, he, hek, BinOutcome.bin bs hv, ?_⟩
      have hreads := binReads_at hrest k 0 (Nat.zero_le _)
      simp only [Nat.zero_add, List.drop_zero] at hreads
      simp only [objReadBin, hf, isBinary_bin hrest, readBinarySize_bin hrest, hreads]
      by_cases hkl : k ≤ bs.length
      · simp only [hkl, if_true, binClose_at hrest k hkl]
        exact ⟨_, _, rfl, hnext _ rfl rfl, rfl⟩
      · simp only [hkl, if_false]
    · -- a value of another type: left in place, the key stays current
      have hn : ∀ bs, t ≠ .bin bs := fun bs h => hbin ⟨bs, h⟩
      exact ⟨m, e, _, he, hek, BinOutcome.notBin t ts hv hn, o1, r1,
        by simp only [objReadBin, hf, isBinary_other hrest hn], hinv1, rfl⟩
  · exact .inr ⟨hno, o1, r1, by simp only [objReadBin, hf], hinv', hmis⟩

end BSVerif.Scope
