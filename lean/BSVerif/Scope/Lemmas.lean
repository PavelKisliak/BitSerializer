/-
  The token-level reader in front of complete values: exactness of `SkipValue`, what `ReadValue` answers, and the
  element requests and destructor loops of the array and binary scopes; how an object scope finds its way to a value is
  Scope/Cursor.lean. Defined here for the property statements: `WFv` (one complete value), the abstract answers
  `valueAnswer` and `arrAnswer`, the composed element requests `arrReads` and `binReads`, and `At`.
  The facts are stated about the unread tokens: `_of_rest` and `_at` in a name both announce a hypothesis `r.rest = …`.
  Only the last section speaks of the structure `At`, which names the tokens already read as well, for the statements
  of C05 (`rest_of_at`, `skip_at`); in Scope/Cursor.lean `_at` means "at entry `i` of a `Layout`".
-/
import BSVerif.Scope.Model

namespace BSVerif.Scope

def keyTok : Key → Tok
  | .str s => .str s
  | .int v => .int v
  | .ts sec ns => .ts sec ns

/-- `v` is one complete value: skipping it consumes exactly `v`, whatever follows and whatever else
    is still pending -/
def WFv (v : List Tok) : Prop :=
  v ≠ [] ∧ ∀ (rest : List Tok) (n : Nat), skipN (v ++ rest) (n + 1) = skipN rest n

theorem wfv_scalar (t : Tok) (h : t.children = 0) : WFv [t] := by
  refine ⟨by simp, ?_⟩
  intro rest n
  simp [skipN, h]

theorem keyTok_children (k : Key) : (keyTok k).children = 0 := by cases k <;> rfl

theorem skipN_values (vs : List (List Tok)) (h : ∀ v ∈ vs, WFv v) (rest : List Tok) (n : Nat) :
    skipN (vs.flatten ++ rest) (n + vs.length) = skipN rest n := by
  induction vs generalizing n with
  | nil => simp
  | cons v vs ih =>
    have hv := (h v (by simp)).2
    simp only [List.flatten_cons, List.append_assoc, List.length_cons]
    rw [show n + (vs.length + 1) = (n + vs.length) + 1 by omega, hv]
    exact ih (fun w hw => h w (by simp [hw])) n

theorem wfv_arr (items : List (List Tok)) (h : ∀ v ∈ items, WFv v) : WFv (.arr items.length :: items.flatten) := by
  refine ⟨by simp, ?_⟩
  intro rest n
  simp only [List.cons_append, skipN, Tok.children]
  exact skipN_values items h rest n

theorem wfv_map (kvs : List (List Tok)) (h : ∀ v ∈ kvs, WFv v) (m : Nat) (hm : kvs.length = 2 * m) :
    WFv (.map m :: kvs.flatten) := by
  refine ⟨by simp, ?_⟩
  intro rest n
  simp only [List.cons_append, skipN, Tok.children]
  rw [← hm]
  exact skipN_values kvs h rest n

theorem wfv_scalar_head {t : Tok} {ts : List Tok} (h : WFv (t :: ts)) (hc : t.children = 0) : ts = [] := by
  have := h.2 [] 0
  simp [skipN, hc] at this
  cases ts with
  | nil => rfl
  | cons a as => simp at this

section
variable {r : Rd} {v rest : List Tok}

theorem rest_advance (h : r.rest = v ++ rest) : ({ r with pos := r.pos + v.length } : Rd).rest = rest := by
  unfold Rd.rest at h ⊢
  rw [← List.drop_drop, h, List.drop_left]

/-- the position `SkipValue` computes from what is left -/
theorem rest_len (h : r.rest = v ++ rest) (hv : v ≠ []) : r.doc.length - rest.length = r.pos + v.length := by
  have hl := congrArg List.length h
  have := List.length_pos_iff.mpr hv
  simp only [Rd.rest, List.length_drop, List.length_append] at hl
  omega

theorem skipValue_of_rest (h : r.rest = v ++ rest) (hv : WFv v) :
    r.skipValue = .ok { r with pos := r.pos + v.length } := by
  have hs : skipN (v ++ rest) 1 = some rest := (hv.2 rest 0).trans (by cases rest <;> rfl)
  unfold Rd.skipValue
  rw [h, hs, ← rest_len h hv.1]
  obtain ⟨t, ts, rfl⟩ := List.exists_cons_of_ne_nil hv.1
  rfl

theorem readKey_of_rest {k : Key} (h : r.rest = keyTok k :: rest) : r.readKey = .ok (k, { r with pos := r.pos + 1 }) := by
  unfold Rd.readKey
  rw [h]
  cases k <;> rfl

/-- what loading a value of kind `ty` from the complete value `v` must give (the abstract answer):
    `ok (some s)` loaded, `ok none` not loaded (skipped by policy / nil), or the policy's exception -/
def valueAnswer (mis : Mis) (ty : Ty) (v : List Tok) : Except Err (Option Sc) :=
  match v with
  | [] => .error .parsing
  | t :: _ =>
    match matchTy ty t with
    | .val s => .ok (some s)
    | .overflow => .error .overflow
    | .other => if t ≠ .nil ∧ mis = .throwError then .error .mismatched else .ok none

theorem matchTy_children {ty : Ty} {t : Tok} (h : matchTy ty t ≠ .other) : t.children = 0 := by
  cases ty <;> cases t <;> simp_all [matchTy, Tok.children]

theorem matchTy_overflow_children {ty : Ty} {t : Tok} (h : matchTy ty t = .overflow) : t.children = 0 :=
  matchTy_children (by rw [h]; nofun)

theorem readValue_of_rest (h : r.rest = v ++ rest) (hv : WFv v) (ty : Ty) :
    r.readValue ty = (valueAnswer r.mis ty v).map fun a => (a, { r with pos := r.pos + v.length }) := by
  have hsk := skipValue_of_rest h hv
  obtain ⟨t, ts, rfl⟩ := List.exists_cons_of_ne_nil hv.1
  unfold Rd.readValue valueAnswer
  rw [h]
  simp only [List.cons_append]
  cases hm : matchTy ty t with
  | val s =>
    -- a token that matches a kind is a scalar, so the complete value `v` is that one token: `pos + 1 = pos + v.length`
    obtain rfl := wfv_scalar_head hv (matchTy_children (by rw [hm]; nofun))
    rfl
  | overflow => rfl
  | other =>
    simp only [Rd.mismatch, hsk]
    split <;> rfl

end

theorem readArraySize_arr {r : Rd} {n : Nat} {rest : List Tok} (h : r.rest = .arr n :: rest) :
    r.readArraySize = .ok (some n, { r with pos := r.pos + 1 }) := by
  unfold Rd.readArraySize; rw [h]

theorem readArraySize_other {r : Rd} {t : Tok} {ts rest : List Tok} (h : r.rest = t :: ts ++ rest) (hv : WFv (t :: ts))
    (hn : ∀ n, t ≠ .arr n) :
    r.readArraySize = if t ≠ .nil ∧ r.mis = .throwError then .error .mismatched
      else .ok (none, { r with pos := r.pos + (t :: ts).length }) := by
  unfold Rd.readArraySize
  rw [h]
  cases t with
  | arr n => exact absurd rfl (hn n)
  | _ => simp only [List.cons_append, Rd.mismatch, skipValue_of_rest h hv]; split <;> rfl

/-! `CMsgPackReadArrayScope` read as far as the caller likes (a `std::tuple` shorter than the array under the Skip policy,
a partly read nested array) and destroyed: the destructor skips the elements that were not read. -/

theorem arrCloseLoop_at (items : List (List Tok)) (hw : ∀ v ∈ items, WFv v) :
    ∀ (r : Rd) (rest : List Tok), r.rest = items.flatten ++ rest →
      arrCloseLoop items.length r = .ok { r with pos := r.pos + items.flatten.length } := by
  induction items with
  | nil => intro r rest _; rfl
  | cons v vs ih =>
    intro r rest h
    rw [List.flatten_cons, List.append_assoc] at h
    simp only [List.length_cons, arrCloseLoop, skipValue_of_rest h (hw v (by simp)), bind, Except.bind]
    rw [ih (fun w hw' => hw w (by simp [hw'])) _ rest (rest_advance h)]
    simp [Nat.add_assoc]

/-- the abstract answers to reading the first elements of an array with the target kinds `tys`: element by element,
    the first exception ends it; asking for more elements than there are is OutOfRange (`CheckEnd`) -/
def arrAnswer (mis : Mis) : List Ty → List (List Tok) → Except Err (List (Option Sc))
  | [], _ => .ok []
  | _ :: _, [] => .error .outOfRange
  | ty :: tys, v :: vs =>
    match valueAnswer mis ty v with
    | .error e => .error e
    | .ok a =>
      match arrAnswer mis tys vs with
      | .error e => .error e
      | .ok as => .ok (a :: as)

/-- `SerializeValue(value)` on an array scope once for each target kind of `tys`: the answers, `mIndex` afterwards, reader -/
def arrReads : List Ty → Nat → Nat → Rd → Except Err (List (Option Sc) × Nat × Rd)
  | [], _, index, r => .ok ([], index, r)
  | ty :: tys, size, index, r =>
    match checkEnd size index with
    | .error e => .error e
    | .ok () =>
      match r.readValue ty with
      | .error e => .error e
      | .ok (a, r1) =>
        match arrReads tys size (index + 1) r1 with
        | .error e => .error e
        | .ok (as, idx, r2) => .ok (a :: as, idx, r2)

theorem arrReads_at (tys : List Ty) :
    ∀ (items : List (List Tok)), (∀ v ∈ items, WFv v) → ∀ (r : Rd) (rest : List Tok) (size index : Nat),
    r.rest = items.flatten ++ rest → size = index + items.length →
    match arrAnswer r.mis tys items with
    | .ok as => tys.length ≤ items.length ∧
        arrReads tys size index r = .ok (as, index + tys.length, { r with pos := r.pos + (items.take tys.length).flatten.length })
    | .error e => arrReads tys size index r = .error e := by
  induction tys with
  | nil => intro items _ r rest size index _ _; exact ⟨Nat.zero_le _, rfl⟩
  | cons ty tys ih =>
    intro items hw r rest size index h hsz
    cases items with
    | nil => simp [arrAnswer, arrReads, checkEnd, hsz]
    | cons v vs =>
      have hne : ¬ (index = size) := by simp only [List.length_cons] at hsz; omega
      rw [List.flatten_cons, List.append_assoc] at h
      simp only [arrAnswer, arrReads, checkEnd, hne, if_false, readValue_of_rest h (hw v (by simp)) ty]
      cases valueAnswer r.mis ty v with
      | error e => rfl
      | ok a =>
        have := ih vs (fun w hw' => hw w (by simp [hw'])) _ rest size (index + 1) (rest_advance h)
          (by simp only [List.length_cons] at hsz; omega)
        simp only [Except.map] at this ⊢
        cases haa : arrAnswer r.mis tys vs with
        | error e => rw [haa] at this; simp only [this]
        | ok as =>
          rw [haa] at this
          simp only [this.2]
          refine ⟨by simp only [List.length_cons]; omega, ?_⟩
          simp [Nat.add_assoc, Nat.add_comm 1]

theorem arrReads_then_close (tys : List Ty) (items : List (List Tok)) (hw : ∀ v ∈ items, WFv v) (r : Rd) (rest : List Tok)
    (h : r.rest = items.flatten ++ rest) :
    match arrAnswer r.mis tys items with
    | .ok as => ∃ idx r', arrReads tys items.length 0 r = .ok (as, idx, r') ∧
        arrClose items.length idx r' = .ok { r with pos := r.pos + items.flatten.length }
    | .error e => arrReads tys items.length 0 r = .error e := by
  have hreads := arrReads_at tys items hw r rest items.length 0 h (by omega)
  cases haa : arrAnswer r.mis tys items with
  | error e => rw [haa] at hreads; exact hreads
  | ok as =>
    rw [haa] at hreads
    have hsplit : items.flatten = (items.take tys.length).flatten ++ (items.drop tys.length).flatten := by
      rw [← List.flatten_append, List.take_append_drop]
    refine ⟨_, _, hreads.2, ?_⟩
    rw [hsplit, List.append_assoc] at h
    rw [arrClose, Nat.zero_add, ← List.length_drop,
      arrCloseLoop_at _ (fun w hw' => hw w (List.mem_of_mem_drop hw')) _ rest (rest_advance h), hsplit]
    simp [Nat.add_assoc]

/-- `SerializeValue(byte)` on a binary scope `k` times: the bytes and `mIndex` afterwards -/
def binReads : Nat → Nat → Nat → Rd → Except Err (List Nat × Nat)
  | 0, _, index, _ => .ok ([], index)
  | k + 1, size, index, r =>
    match checkEnd size index with
    | .error e => .error e
    | .ok () =>
      match r.readBinary index with
      | .error e => .error e
      | .ok b =>
        match binReads k size (index + 1) r with
        | .error e => .error e
        | .ok (bs, idx) => .ok (b :: bs, idx)

section
variable {r : Rd} {bs : List Nat} {rest' : List Tok}

theorem readBinary_at (h : r.rest = .bin bs :: rest') (i : Nat) (hi : i < bs.length) : r.readBinary i = .ok bs[i] := by
  simp [Rd.readBinary, h, List.getElem?_eq_getElem hi]

theorem binReads_at (h : r.rest = .bin bs :: rest') :
    ∀ (k index : Nat), index ≤ bs.length →
    binReads k bs.length index r =
      (if index + k ≤ bs.length then .ok ((bs.drop index).take k, index + k) else .error .outOfRange) := by
  intro k
  induction k with
  | zero => intro index hi; simp [binReads, hi]
  | succ k ih =>
    intro index hi
    by_cases hend : index = bs.length
    · have : ¬ (index + (k + 1) ≤ bs.length) := by omega
      simp [binReads, checkEnd, hend]
    · have hlt : index < bs.length := by omega
      have := ih (index + 1) (by omega)
      simp only [binReads, checkEnd, hend, if_false, readBinary_at h index hlt, this]
      by_cases hk : index + 1 + k ≤ bs.length
      · have hk' : index + (k + 1) ≤ bs.length := by omega
        simp only [hk, hk', if_true]
        rw [List.drop_eq_getElem_cons hlt, List.take_succ_cons]
        congr 2; omega
      · have hk' : ¬ (index + (k + 1) ≤ bs.length) := by omega
        simp only [hk, hk', if_false]

theorem binCloseLoop_at (h : r.rest = .bin bs :: rest') :
    ∀ (n index : Nat), index + n ≤ bs.length → binCloseLoop n index r = .ok () := by
  intro n
  induction n with
  | zero => intro index _; rfl
  | succ n ih =>
    intro index hi
    simp only [binCloseLoop, readBinary_at h index (by omega), bind, Except.bind]
    exact ih (index + 1) (by omega)

theorem binClose_at (h : r.rest = .bin bs :: rest') (index : Nat) (hi : index ≤ bs.length) :
    binClose bs.length index r = .ok { r with pos := r.pos + 1 } := by
  simp only [binClose, binCloseLoop_at h (bs.length - index) index (by omega), bind, Except.bind, pure, Except.pure]

theorem isBinary_bin (h : r.rest = .bin bs :: rest') : r.isBinary = .ok true := by
  simp [Rd.isBinary, h]

theorem isBinary_other {t : Tok} (h : r.rest = t :: rest') (hn : ∀ bs, t ≠ .bin bs) : r.isBinary = .ok false := by
  unfold Rd.isBinary
  rw [h]
  cases t with
  | bin bs => exact absurd rfl (hn bs)
  | _ => rfl

theorem readBinarySize_bin (h : r.rest = .bin bs :: rest') : r.readBinarySize = .ok (some bs.length, r) := by
  simp [Rd.readBinarySize, h]

end

/-! `At` names the tokens already read as well as those ahead, which is how the statements of C05 speak; `rest_of_at`
leads from it to the lemmas above. -/

/-- reader positioned in front of the tokens `v`, with `rest` behind them -/
structure At (r : Rd) (pre v rest : List Tok) : Prop where
  doc : r.doc = pre ++ v ++ rest
  pos : r.pos = pre.length

theorem rest_of_at {r : Rd} {pre v rest : List Tok} (h : At r pre v rest) : r.rest = v ++ rest := by
  unfold Rd.rest; rw [h.doc, h.pos, List.append_assoc, List.drop_left]

theorem skip_at {r : Rd} {pre v rest : List Tok} (h : At r pre v rest) (hv : WFv v) :
    r.skipValue = .ok { r with pos := (pre ++ v).length } := by
  rw [skipValue_of_rest (rest_of_at h) hv, h.pos, List.length_append]

theorem At.advance {r : Rd} {pre v w rest : List Tok} (h : At r pre (v ++ w) rest) :
    At { r with pos := (pre ++ v).length } (pre ++ v) w rest :=
  ⟨by show r.doc = _; rw [h.doc]; simp [List.append_assoc], rfl⟩

end BSVerif.Scope
