/-
  What one request does to the scope stack machine (`step`), outcome by outcome, for the requests the composite
  operations of C03/C05 are made of: their proofs rewrite with these equations and leave `step` folded.
  Each equation reduces the one arm it needs by `unfold` and `dsimp only`: `simp only [step]` would first derive the
  equation lemmas of the whole match, at every call.
-/
import BSVerif.Scope.Model

namespace BSVerif.Scope

/-- the answers that end a run -/
def Ans.ends : Ans → Bool
  | .err _ | .terminate | .badReq => true
  | _ => false

theorem run_cons_of_step {st st' : St} {q : Req} {a : Ans} {qs : List Req} (h : step st q = (a, st'))
    (ha : a.ends = false := by rfl) : run st (q :: qs) = a :: run st' qs := by
  cases a <;> simp only [run, h] <;> cases ha

variable {r r' r'' : Rd} {tl : List Scope} {d : Option Err} {size index n : Nat}

theorem checkEnd_of_lt (h : index < size) : checkEnd size index = .ok () := if_neg (Nat.ne_of_lt h)

theorem step_arr_next_val {ty : Ty} {v : Sc} (hc : checkEnd size index = .ok ()) (h : r.readValue ty = .ok (some v, r')) :
    step ⟨r, .arr size index :: tl, d⟩ (.next ty) = (.val v, ⟨r', .arr size (index + 1) :: tl, d⟩) := by
  unfold step; dsimp only; rw [hc]; dsimp only; rw [h]

theorem step_arr_next_no {ty : Ty} (hc : checkEnd size index = .ok ()) (h : r.readValue ty = .ok (none, r')) :
    step ⟨r, .arr size index :: tl, d⟩ (.next ty) = (.no, ⟨r', .arr size (index + 1) :: tl, d⟩) := by
  unfold step; dsimp only; rw [hc]; dsimp only; rw [h]

theorem step_arr_next_err {ty : Ty} {e : Err} (hc : checkEnd size index = .ok ()) (h : r.readValue ty = .error e) :
    step ⟨r, .arr size index :: tl, d⟩ (.next ty) = (.err e, ⟨r, .arr size index :: tl, d⟩) := by
  unfold step; dsimp only; rw [hc]; dsimp only; rw [h]

theorem step_arr_openBin_other (hc : checkEnd size index = .ok ()) (h : r.isBinary = .ok false) :
    step ⟨r, .arr size index :: tl, d⟩ .openBin = (.no, ⟨r, .arr size index :: tl, d⟩) := by
  unfold step; dsimp only; rw [hc]; dsimp only; rw [h]

theorem step_arr_openBin_bin (hc : checkEnd size index = .ok ()) (h : r.isBinary = .ok true)
    (hs : r.readBinarySize = .ok (some n, r')) :
    step ⟨r, .arr size index :: tl, d⟩ .openBin = (.opened n, ⟨r', .bin n 0 :: .arr size (index + 1) :: tl, d⟩) := by
  unfold step; dsimp only; rw [hc]; dsimp only; rw [h]; dsimp only; rw [hs]

theorem step_arr_close (h : arrClose size index r = .ok r') :
    step ⟨r, .arr size index :: tl, d⟩ .close = (.closed, ⟨r', notifyParent tl, d⟩) := by
  unfold step; dsimp only; rw [h]

theorem step_root_openBin_other (h : r.isBinary = .ok false) :
    step ⟨r, .root :: tl, d⟩ .openBin = (.no, ⟨r, .root :: tl, d⟩) := by
  unfold step; dsimp only; rw [h]

theorem step_root_openBin_bin (h : r.isBinary = .ok true) (hs : r.readBinarySize = .ok (some n, r')) :
    step ⟨r, .root :: tl, d⟩ .openBin = (.opened n, ⟨r', .bin n 0 :: .root :: tl, d⟩) := by
  unfold step; dsimp only; rw [h]; dsimp only; rw [hs]

theorem step_bin_readByte {b : Nat} (hc : checkEnd size index = .ok ()) (h : r.readBinary index = .ok b) :
    step ⟨r, .bin size index :: tl, d⟩ .readByte = (.val (.byte b), ⟨r, .bin size (index + 1) :: tl, d⟩) := by
  unfold step; dsimp only; rw [hc]; dsimp only; rw [h]

theorem step_bin_close (h : binClose size index r = .ok r') :
    step ⟨r, .bin size index :: tl, d⟩ .close = (.closed, ⟨r', notifyParent tl, d⟩) := by
  unfold step; dsimp only; rw [h]

variable {k : Key} {o o' : Obj}

theorem step_obj_openArrK_absent (hf : findValueByKey k o r = .ok (false, o', r')) :
    step ⟨r, .obj o :: tl, d⟩ (.openArrK k) = (.no, ⟨r', .obj o' :: tl, d⟩) := by
  unfold step; dsimp only; rw [hf]

theorem step_obj_openArrK_arr (hf : findValueByKey k o r = .ok (true, o', r')) (hs : r'.readArraySize = .ok (some n, r'')) :
    step ⟨r, .obj o :: tl, d⟩ (.openArrK k) = (.opened n, ⟨r'', .arr n 0 :: .obj o' :: tl, d⟩) := by
  unfold step; dsimp only; rw [hf]; dsimp only; rw [hs]

theorem step_obj_openArrK_other (hf : findValueByKey k o r = .ok (true, o', r')) (hs : r'.readArraySize = .ok (none, r'')) :
    step ⟨r, .obj o :: tl, d⟩ (.openArrK k) = (.no, ⟨r'', .obj o'.onFinishChild :: tl, d⟩) := by
  unfold step; dsimp only; rw [hf]; dsimp only; rw [hs]

theorem step_obj_openBinK_absent (hf : findValueByKey k o r = .ok (false, o', r')) :
    step ⟨r, .obj o :: tl, d⟩ (.openBinK k) = (.no, ⟨r', .obj o' :: tl, d⟩) := by
  unfold step; dsimp only; rw [hf]

theorem step_obj_openBinK_other (hf : findValueByKey k o r = .ok (true, o', r')) (hb : r'.isBinary = .ok false) :
    step ⟨r, .obj o :: tl, d⟩ (.openBinK k) = (.no, ⟨r', .obj o' :: tl, d⟩) := by
  unfold step; dsimp only; rw [hf]; dsimp only; rw [hb]

theorem step_obj_openBinK_bin (hf : findValueByKey k o r = .ok (true, o', r')) (hb : r'.isBinary = .ok true)
    (hs : r'.readBinarySize = .ok (some n, r'')) :
    step ⟨r, .obj o :: tl, d⟩ (.openBinK k) = (.opened n, ⟨r'', .bin n 0 :: .obj o' :: tl, d⟩) := by
  unfold step; dsimp only; rw [hf]; dsimp only; rw [hb]; dsimp only; rw [hs]

theorem step_obj_openBinK_none (hf : findValueByKey k o r = .ok (true, o', r')) (hb : r'.isBinary = .ok true)
    (hs : r'.readBinarySize = .ok (none, r'')) :
    step ⟨r, .obj o :: tl, d⟩ (.openBinK k) = (.no, ⟨r'', .obj o'.onFinishChild :: tl, d⟩) := by
  unfold step; dsimp only; rw [hf]; dsimp only; rw [hb]; dsimp only; rw [hs]

end BSVerif.Scope
