/-
  `CVariableKey::operator==` of msgpack_archive.h for integer keys (transliteration) and the theorem that it IS
  equality of the mathematical integers, for every C++ integer type the caller may pass the key as.
  The scope model (Scope/Model.lean) compares keys as mathematical integers; this file is what justifies that.
-/
namespace BSVerif.Scope.VarKey

/-- a C++ integer type: width in bits and signedness -/
structure ITy where
  bits : Nat
  signed : Bool
  deriving Repr, DecidableEq

/-- the values representable in `t` -/
def ITy.holds (t : ITy) (v : Int) : Prop :=
  if t.signed then -(2 ^ (t.bits - 1) : Int) ≤ v ∧ v < 2 ^ (t.bits - 1) else 0 ≤ v ∧ v < 2 ^ t.bits

/-- which alternative of the key tuple `ReadKey` filled: `uint64_t` (positive fixint, uint 8..64 formats)
    or `int64_t` (negative fixint, int 8..64 formats) -/
inductive Stored where
  | u (v : Int)
  | s (v : Int)
  deriving Repr, DecidableEq

def Stored.val : Stored → Int
  | .u v => v
  | .s v => v

def Stored.holds : Stored → Prop
  | .u v => 0 ≤ v ∧ v < 2 ^ 64
  | .s v => -(2 ^ 63 : Int) ≤ v ∧ v < 2 ^ 63

/-- `static_cast<std::make_unsigned_t<T>>(value)` -/
def toUnsigned (t : ITy) (v : Int) : Int := v % 2 ^ t.bits

/-- `static_cast<int64_t>(value)` of a `uint64_t` -/
def toSigned64 (v : Int) : Int := if v < 2 ^ 63 then v else v - 2 ^ 64

/-- `CVariableKey::operator==(const T& value)`, integral branch -/
def eqKey (st : Stored) (t : ITy) (v : Int) : Bool :=
  match st with
  | .u r => decide (v ≥ 0) && r == toUnsigned t v
  | .s r =>
    if t.signed then r == v
    else decide (v ≤ 2 ^ 63 - 1) && r == toSigned64 v

/-- the comparison is equality of the integers, whatever type the caller used and whatever its width: a value that
    `t` holds and that is not negative is below `2 ^ t.bits`, so the cast to unsigned leaves it alone -/
theorem eqKey_iff (st : Stored) (t : ITy) (v : Int) (hv : t.holds v) (hs : st.holds) :
    eqKey st t v = true ↔ st.val = v := by
  obtain ⟨bits, sg⟩ := t
  cases st with
  | s r =>
    cases sg
    · simp only [eqKey, toSigned64, Stored.val, ITy.holds, Stored.holds, Bool.false_eq_true, if_false, Bool.and_eq_true,
        decide_eq_true_eq, beq_iff_eq] at *
      split <;> omega
    · simp [eqKey, Stored.val]
  | u r =>
    have hpow : (2 : Int) ^ (bits - 1) ≤ 2 ^ bits := by
      exact_mod_cast Nat.pow_le_pow_right (n := 2) (by decide) (Nat.sub_le bits 1)
    have hmod : 0 ≤ v → v % 2 ^ bits = v := fun h0 =>
      Int.emod_eq_of_lt h0 (by cases sg <;> simp only [ITy.holds, Bool.false_eq_true, if_false, if_true] at hv <;> omega)
    simp only [eqKey, toUnsigned, Stored.val, Bool.and_eq_true, decide_eq_true_eq, beq_iff_eq]
    constructor
    · rintro ⟨h0, h⟩; exact h.trans (hmod h0)
    · rintro rfl; exact ⟨hs.1, (hmod hs.1).symm⟩

/-- the same comparison WITHOUT the `value >= 0` guard is not equality: −1 passed as `int` would match the stored
    key 4294967295 -/
def eqKeyNoGuard (st : Stored) (t : ITy) (v : Int) : Bool :=
  match st with
  | .u r => r == toUnsigned t v
  | .s r => eqKey (.s r) t v

theorem eqKeyNoGuard_refuted : eqKeyNoGuard (.u 4294967295) ⟨32, true⟩ (-1) = true ∧ (Stored.u 4294967295).val ≠ -1 := by
  decide

end BSVerif.Scope.VarKey
