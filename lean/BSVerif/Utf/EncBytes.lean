/-
  Bytes and units.  `encBytes e us` is the Spec's byte serialisation (`Spec.bytesLE` / `Spec.bytesBE`)
  of a unit sequence in the byte order of encoding `e`.  The reader's `unitsOfBytes` and the LE/BE
  iterator adapter of `chunkRes` see such bytes as the units themselves (`chunkRes_encBytes`), and byte
  prefixes/suffixes at unit boundaries are the serialisations of unit prefixes/suffixes.
-/
import BSVerif.Utf.Progress

namespace BSVerif.Utf
open Spec

def encBytes (e : UtfType) (us : List Nat) : List Nat :=
  if e.isBE then bytesBE e.width us else bytesLE e.width us

theorem encBytes_utf8 (v : List Nat) (h : ∀ x ∈ v, x < 2 ^ 8) : encBytes .utf8 v = v :=
  unitsOfBytes_bytesLE (w := 8) (Or.inl rfl) h

@[simp] theorem encBytes_nil (e : UtfType) : encBytes e [] = [] := by
  cases e <;> rfl

theorem encBytes_append (e : UtfType) (a b : List Nat) :
    encBytes e (a ++ b) = encBytes e a ++ encBytes e b := by
  unfold encBytes bytesBE bytesLE; split <;> simp [List.flatMap_append]

theorem encBytes_cons (e : UtfType) (a : Nat) (v : List Nat) :
    encBytes e (a :: v) = encBytes e [a] ++ encBytes e v := by
  rw [← encBytes_append]; rfl

theorem encBytes_single_length (e : UtfType) (a : Nat) : (encBytes e [a]).length = e.width / 8 := by
  cases e <;> simp [encBytes, bytesLE, bytesBE, unitBytesBE, UtfType.width, UtfType.isBE]

theorem encBytes_length (e : UtfType) (v : List Nat) : (encBytes e v).length = v.length * (e.width / 8) := by
  induction v with
  | nil => simp
  | cons a v ih =>
    rw [encBytes_cons, List.length_append, encBytes_single_length, ih, List.length_cons, Nat.add_mul]
    omega

theorem encBytes_take (e : UtfType) (v : List Nat) (k : Nat) :
    (encBytes e v).take (k * (e.width / 8)) = encBytes e (v.take k) := by
  induction v generalizing k with
  | nil => simp
  | cons a v ih =>
    cases k with
    | zero => simp
    | succ k =>
      rw [encBytes_cons e a v, List.take_succ_cons, encBytes_cons e a (v.take k)]
      have h : (k + 1) * (e.width / 8) = (encBytes e [a]).length + k * (e.width / 8) := by
        rw [encBytes_single_length, Nat.add_mul]; omega
      rw [h, List.take_length_add_append, ih]

theorem encBytes_drop (e : UtfType) (v : List Nat) (k : Nat) :
    (encBytes e v).drop (k * (e.width / 8)) = encBytes e (v.drop k) := by
  induction v generalizing k with
  | nil => simp
  | cons a v ih =>
    cases k with
    | zero => simp
    | succ k =>
      rw [encBytes_cons e a v, List.drop_succ_cons]
      have h : (k + 1) * (e.width / 8) = (encBytes e [a]).length + k * (e.width / 8) := by
        rw [encBytes_single_length, Nat.add_mul]; omega
      rw [h, List.drop_length_add_append, ih]

theorem encBytes_eq_nil (e : UtfType) (v : List Nat) (h : encBytes e v = []) : v = [] := by
  have hl := encBytes_length e v
  rw [h] at hl
  have hb := width_cases e
  cases v with
  | nil => rfl
  | cons a v =>
    simp only [List.length_nil, List.length_cons] at hl
    have : 0 < (v.length + 1) * (e.width / 8) := Nat.mul_pos (by omega) (by omega)
    omega

theorem chunkRes_encBytes (e : UtfType) (wo : Nat) (pol : Policy) (mark : Option (List Nat))
    (v out : List Nat) (hv : ∀ x ∈ v, x < 2 ^ e.width) :
    chunkRes e wo pol mark (unitsOfBytes e.width (encBytes e v)) out
      = nativeDecode e.width wo pol mark v out := by
  rw [chunkRes_eq]
  congr 1
  unfold encBytes
  cases hbe : e.isBE
  · rw [if_neg (by decide), if_neg (by decide)]; exact unitsOfBytes_bytesLE (width_cases e) hv
  · have hw := width_of_isBE hbe
    rw [if_pos rfl, if_pos rfl, ← bytesLE_map_reverse hw,
      unitsOfBytes_bytesLE (width_cases e) (fun x hx => by
        obtain ⟨u, _, rfl⟩ := List.mem_map.mp hx; exact reverseUnit_lt hw u),
      List.map_map]
    exact (List.map_congr_left fun u hu => reverseUnit_involutive hw (hv u hu)).trans (List.map_id _)

end BSVerif.Utf
