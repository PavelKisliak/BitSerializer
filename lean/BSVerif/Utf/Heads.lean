/-
  The four conversion loops as instances of `run`: the recogniser of `Utf8::Decode` (`head8`), the one
  the three loops over 16- and 32-bit units share (`headW`), what each loop appends for a scalar, the
  facts about them that `Utf/Run.lean` asks for, and how `Transcode` and the reader's decoder
  dispatch to the loops.
-/
import BSVerif.Utf.Run

namespace BSVerif.Utf
open Spec

def head8 (b : Nat) (rest : List Nat) : Ev :=
  if b < 0x80 then .scalar b 0
  else
    let (tails, sym0, minSym, wrong0) := classify8 b
    if rest.length < tails - 1 then .short
    else
      let (sym, wrong) := foldTails (rest.take (tails - 1)) sym0 wrong0
      if wrong || sym < minSym || sym > 0x10FFFF || isSurrogate sym then .bad (tails - 1)
      else .scalar sym (tails - 1)

/-- what `Utf8::Decode` to `w`-bit units appends for a scalar -/
def emitD8 (w sym : Nat) : List Nat :=
  if sym > 0xFFFF ∧ w = 16 then [0xD800 + (sym - 0x10000) / 1024 % 1024, 0xDC00 + (sym - 0x10000) % 1024]
  else [sym]

theorem decode8_eq_run (w : Nat) (pol : Policy) (mark : Option (List Nat)) (inp : List Nat) (pos : Nat)
    (out : List Nat) (inv : Nat) :
    decode8 w pol mark inp pos out inv = run head8 (emitD8 w) pol mark inp pos out inv := by
  fun_induction decode8 w pol mark inp pos out inv
  case case1 => rw [run]
  case case2 b rest _ _ _ hb ih =>
    have : emitD8 w b = [b] := if_neg (by omega)
    rw [run, head8, if_pos hb]; simpa [this] using ih
  case case3 b rest _ _ _ hb tails sym0 minSym wrong0 hc k hlen =>
    rw [run, head8, if_neg hb, hc]; simp only [hlen, k, if_true]
  case case4 b rest _ _ _ hb tails sym0 minSym wrong0 hc k hlen sym wrong hf hbad hE =>
    rw [run, head8, if_neg hb, hc]; simp only [hlen, k, if_false, hf, hbad, if_true, hE]
  case case5 b rest _ _ _ hb tails sym0 minSym wrong0 hc k hlen sym wrong hf hbad o hE ih =>
    rw [run, head8, if_neg hb, hc]; simp only [hlen, k, if_false, hf, hbad, if_true, hE]; exact ih
  case case6 b rest _ _ _ hb tails sym0 minSym wrong0 hc k hlen sym wrong hf hbad h16 ih =>
    obtain ⟨h1, rfl⟩ := h16
    rw [run, head8, if_neg hb, hc]
    simp only [hlen, k, if_false, hf, hbad, Bool.false_eq_true, emitD8, h1, and_self, if_true]; exact ih
  case case7 b rest _ _ _ hb tails sym0 minSym wrong0 hc k hlen sym wrong hf hbad h16 ih =>
    rw [run, head8, if_neg hb, hc]
    simp only [hlen, k, if_false, hf, hbad, Bool.false_eq_true, emitD8, h16]; exact ih

theorem head8_wf (b : Nat) (rest : List Nat) : (head8 b rest).extra ≤ rest.length := by
  unfold head8
  repeat' split
  all_goals simp only [Ev.extra]; omega

theorem head8_short_iff {b : Nat} {rest : List Nat} :
    head8 b rest = .short ↔ ¬ b < 0x80 ∧ rest.length < (classify8 b).1 - 1 := by
  unfold head8
  split
  · simp [*]
  · generalize classify8 b = cl
    obtain ⟨tails, sym0, minSym, wrong0⟩ := cl
    simp only
    split
    · simp [*]
    · generalize foldTails (rest.take (tails - 1)) sym0 wrong0 = ft
      obtain ⟨sym, wrong⟩ := ft
      simp only
      split <;> simp [*]

theorem head8_short_len {b : Nat} {rest : List Nat} (h : head8 b rest = .short) : rest.length < 5 := by
  have := classify8_tails_le b
  have := (head8_short_iff.mp h).2
  omega

/-- `head8` at a lead byte that declares `n` tails, with `n` bytes `ts` present: it accepts exactly when all of
    `ts` are continuation bytes and the value they fold to from `sym0` is a scalar not below `minSym` (no
    overlong form).  Soundness and completeness of `head8` are both read off this. -/
theorem head8_tails {b n sym0 minSym : Nat} (hb : ¬ b < 0x80) (hc : classify8 b = (n + 1, sym0, minSym, false))
    (ts : List Nat) (hts : ts.length = n) (rest : List Nat) (c k : Nat) :
    head8 b (ts ++ rest) = .scalar c k ↔
      k = n ∧ (∀ t ∈ ts, 0x80 ≤ t ∧ t < 0xC0) ∧ c = ts.foldl (fun a t => a * 64 + t % 64) sym0 ∧
        minSym ≤ c ∧ c ≤ 0x10FFFF ∧ isSurrogate c = false := by
  rw [head8, if_neg hb, hc]
  simp only [Nat.add_sub_cancel, List.length_append, hts, show ¬ (n + rest.length < n) by omega, if_false,
    List.take_left' hts]
  generalize hf : foldTails ts sym0 false = ft
  obtain ⟨sym, wrong⟩ := ft
  cases wrong
  · obtain ⟨h1, rfl⟩ := foldTails_false_iff.mp hf
    generalize ts.foldl _ sym0 = s
    simp only [Bool.false_or, Bool.or_eq_true, decide_eq_true_eq]
    constructor
    · intro h
      split at h <;> cases h
      rename_i hg
      exact ⟨rfl, h1, rfl, by omega, by omega, by simpa using fun h => hg (Or.inr h)⟩
    · rintro ⟨rfl, _, rfl, h2, h3, h4⟩
      rw [if_neg (by simp [h4]; omega)]
  · have h1 : ¬ ∀ t ∈ ts, 0x80 ≤ t ∧ t < 0xC0 := fun h => by
      have := (foldTails_false_iff (sym := sym0)).mpr ⟨h, rfl⟩; rw [hf] at this; cases this
    simp [h1]

theorem head8_sound {b : Nat} {rest : List Nat} {c k : Nat} (h : head8 b rest = .scalar c k) :
    IsScalar c ∧ b :: rest.take k = enc8 c := by
  by_cases hb : b < 0x80
  · rw [head8, if_pos hb] at h; cases h
    exact ⟨⟨by omega, by omega⟩, by rw [enc8_1 hb]; rfl⟩
  · -- with `n` tails declared, `rest` starts with the `n` continuation bytes that fold to `c`
    have key : ∀ n sym0 minSym, classify8 b = (n + 1, sym0, minSym, false) →
        ∃ ts, ts.length = n ∧ rest.take k = ts ∧ (∀ t ∈ ts, 0x80 ≤ t ∧ t < 0xC0) ∧
          c = ts.foldl (fun a t => a * 64 + t % 64) sym0 ∧ minSym ≤ c ∧ c ≤ 0x10FFFF ∧ isSurrogate c = false := by
      intro n sym0 minSym hc
      by_cases hl : rest.length < n
      · rw [head8_short_iff.mpr ⟨hb, by rw [hc]; simpa using hl⟩] at h; cases h
      · rw [← List.take_append_drop n rest, head8_tails hb hc _ (by simp; omega)] at h
        obtain ⟨rfl, h⟩ := h
        exact ⟨rest.take k, by simp; omega, rfl, h⟩
    by_cases h2 : 0xC0 ≤ b ∧ b < 0xE0
    · obtain ⟨ts, hl, hts, ht, hc, hmin, hmax, hs⟩ := key 1 _ _ (classify8_2 h2)
      match ts, hl with
      | [t], _ =>
        simp only [List.foldl_cons, List.foldl_nil, List.forall_mem_cons] at hc ht
        have hn : c < 0x800 ∧ b = 0xC0 + b % 32 ∧ t = 0x80 + t % 64 := by omega
        refine ⟨⟨Nat.lt_succ_of_le hmax, isSurrogate_false_iff.mp hs⟩, ?_⟩
        rw [hts, enc8_2 hmin hn.1, hc, fold64_div, fold64_mod, ← hn.2.1, ← hn.2.2]
    · by_cases h3 : 0xE0 ≤ b ∧ b < 0xF0
      · obtain ⟨ts, hl, hts, ht, hc, hmin, hmax, hs⟩ := key 2 _ _ (classify8_3 h3)
        match ts, hl with
        | [t1, t2], _ =>
          simp only [List.foldl_cons, List.foldl_nil, List.forall_mem_cons] at hc ht
          have hn : c < 0x10000 ∧ b = 0xE0 + b % 16 ∧ t1 = 0x80 + t1 % 64 ∧ t2 = 0x80 + t2 % 64 := by omega
          refine ⟨⟨Nat.lt_succ_of_le hmax, isSurrogate_false_iff.mp hs⟩, ?_⟩
          rw [hts, enc8_3 hmin hn.1, hc]
          simp only [div_4096, fold64_div, fold64_mod]
          rw [← hn.2.1, ← hn.2.2.1, ← hn.2.2.2]
      · by_cases h4 : 0xF0 ≤ b ∧ b < 0xF8
        · obtain ⟨ts, hl, hts, ht, hc, hmin, hmax, hs⟩ := key 3 _ _ (classify8_4 h4)
          match ts, hl with
          | [t1, t2, t3], _ =>
            simp only [List.foldl_cons, List.foldl_nil, List.forall_mem_cons] at hc ht
            have hn : b = 0xF0 + b % 8 ∧ t1 = 0x80 + t1 % 64 ∧ t2 = 0x80 + t2 % 64 ∧ t3 = 0x80 + t3 % 64 := by omega
            refine ⟨⟨Nat.lt_succ_of_le hmax, isSurrogate_false_iff.mp hs⟩, ?_⟩
            rw [hts, enc8_4 hmin, hc]
            simp only [div_262144, div_4096, fold64_div, fold64_mod]
            rw [← hn.1, ← hn.2.1, ← hn.2.2.1, ← hn.2.2.2]
        · -- no other lead byte passes the wrong-sequence flag
          exfalso
          have hw := classify8_wrong (b := b) (by omega)
          rw [head8, if_neg hb] at h
          generalize classify8 b = cl at h hw
          obtain ⟨tails, sym0, minSym, wrong0⟩ := cl
          simp only at hw; subst hw
          simp only [foldTails_wrong, Bool.true_or, if_true] at h
          split at h <;> cases h

theorem head8_of_tails {b sym0 minSym c : Nat} {ts : List Nat} (hb : 0x80 ≤ b)
    (hcl : classify8 b = (ts.length + 1, sym0, minSym, false)) (hts : ∀ t ∈ ts, 0x80 ≤ t ∧ t < 0xC0)
    (hc : c = ts.foldl (fun a t => a * 64 + t % 64) sym0) (hmin : minSym ≤ c) (hsc : IsScalar c) :
    (∀ rest, head8 b (ts ++ rest) = .scalar c ts.length) ∧ ∀ j, j < ts.length → head8 b (ts.take j) = .short :=
  ⟨fun rest => (head8_tails (by omega) hcl ts rfl rest c _).mpr
      ⟨rfl, hts, hc, hmin, Nat.le_of_lt_succ hsc.1, isSurrogate_false_iff.mpr hsc.2⟩,
    fun j hj => head8_short_iff.mpr ⟨by omega, by rw [hcl, List.length_take]; omega⟩⟩

theorem tail_cont (z : Nat) : (0x80 ≤ 0x80 + z % 64 ∧ 0x80 + z % 64 < 0xC0) ∧ (0x80 + z % 64) % 64 = z % 64 := by omega

theorem head8_complete {c : Nat} (hc : IsScalar c) {b : Nat} {tl : List Nat} (he : enc8 c = b :: tl) :
    (∀ rest, head8 b (tl ++ rest) = .scalar c tl.length) ∧ ∀ j, j < tl.length → head8 b (tl.take j) = .short := by
  have hlt := hc.1
  by_cases h1 : c < 0x80
  · rw [enc8_1 h1] at he; cases he
    exact ⟨fun rest => if_pos h1, fun j hj => absurd hj (Nat.not_lt_zero j)⟩
  · by_cases h2 : c < 0x800
    · have hn : (0xC0 ≤ 0xC0 + c / 64 ∧ 0xC0 + c / 64 < 0xE0) ∧ (0xC0 + c / 64) % 32 = c / 64 := by omega
      rw [enc8_2 (Nat.le_of_not_lt h1) h2] at he; cases he
      refine head8_of_tails (Nat.le_trans (by decide) hn.1.1) (classify8_2 hn.1) (by simp [tail_cont]) ?_
        (Nat.le_of_not_lt h1) hc
      simp only [List.foldl_cons, List.foldl_nil, hn.2, tail_cont, Nat.div_add_mod']
    · by_cases h3 : c < 0x10000
      · have hn : (0xE0 ≤ 0xE0 + c / 4096 ∧ 0xE0 + c / 4096 < 0xF0) ∧ (0xE0 + c / 4096) % 16 = c / 4096 := by omega
        rw [enc8_3 (Nat.le_of_not_lt h2) h3] at he; cases he
        refine head8_of_tails (Nat.le_trans (by decide) hn.1.1) (classify8_3 hn.1) (by simp [tail_cont]) ?_
          (Nat.le_of_not_lt h2) hc
        simp only [List.foldl_cons, List.foldl_nil, hn.2, tail_cont]
        simp only [div_4096, Nat.div_add_mod']
      · have hn : (0xF0 ≤ 0xF0 + c / 262144 ∧ 0xF0 + c / 262144 < 0xF8) ∧ (0xF0 + c / 262144) % 8 = c / 262144 := by
          omega
        rw [enc8_4 (Nat.le_of_not_lt h3)] at he; cases he
        refine head8_of_tails (Nat.le_trans (by decide) hn.1.1) (classify8_4 hn.1) (by simp [tail_cont]) ?_
          (Nat.le_of_not_lt h3) hc
        simp only [List.foldl_cons, List.foldl_nil, hn.2, tail_cont]
        simp only [div_262144, div_4096, Nat.div_add_mod']

theorem emitD8_eq (w : Nat) {c : Nat} (hc : IsScalar c) : emitD8 w c = enc (if w = 16 then 16 else 32) c := by
  unfold emitD8
  by_cases hw : w = 16
  · by_cases h : c < 0x10000
    · rw [if_neg (by omega), if_pos hw, enc_16, enc16_1 h]
    · have e : (c - 0x10000) / 1024 % 1024 = (c - 0x10000) / 1024 := by have := hc.1; omega
      rw [if_pos ⟨by omega, hw⟩, if_pos hw, enc_16, enc16_2 (by omega), e]
  · rw [if_neg (fun h => hw h.2), if_neg hw, enc_32]

theorem recognises_decode8 (w : Nat) : Recognises (fun _ => True) 8 (if w = 16 then 16 else 32) head8 (emitD8 w) where
  sound _ _ _ _ _ h := head8_sound h
  complete _ hc _ _ he := head8_complete hc he
  emit_eq _ hc := emitD8_eq w hc

/-- head of a sequence of `wi`-bit units as `Utf8::Encode`, `Utf16::Decode` and `Utf16::Encode` see it
    (`Utf8::Encode` takes the ASCII shortcut first; for the other two it changes nothing) -/
def headW (wi : Nat) (u : Nat) (rest : List Nat) : Ev :=
  if u < 0x80 then .scalar u 0
  else if wi = 16 ∧ isSurrogate u then
    if u ≥ 0xDC00 then .bad 0
    else
      match rest with
      | [] => .short
      | low :: _ =>
        if low ≥ 0xDC00 ∧ low ≤ 0xDFFF then .scalar (0x10000 + (u % 1024) * 1024 + low % 1024) 1 else .bad 0
  else if wi = 32 ∧ (u > 0x10FFFF ∨ isSurrogate u) then .bad 0
  else .scalar u 0

/-- what `Utf8::Encode` appends for a scalar -/
def emitE8 (u : Nat) : List Nat := if u < 0x80 then [u] else emit8 u

/-- … and `Utf16::Encode` from 32-bit units -/
def emitE16 (u : Nat) : List Nat :=
  if u < 0x10000 then [u] else [(0xD800 ||| (u - 0x10000) / 1024) % 65536, 0xDC00 + (u - 0x10000) % 1024]

theorem headW_plain {wi u : Nat} (rest : List Nat) (h16 : ¬ (wi = 16 ∧ isSurrogate u))
    (h32 : ¬ (wi = 32 ∧ (u > 0x10FFFF ∨ isSurrogate u))) : headW wi u rest = .scalar u 0 := by
  rw [headW.eq_def, if_neg h16, if_neg h32, ite_self]

/-- at a surrogate the ASCII shortcut does not apply -/
theorem headW_16_surrogate {u : Nat} (hs : isSurrogate u = true) (rest : List Nat) :
    headW 16 u rest =
      if u ≥ 0xDC00 then .bad 0
      else match rest with
        | [] => .short
        | low :: _ =>
          if low ≥ 0xDC00 ∧ low ≤ 0xDFFF then .scalar (0x10000 + (u % 1024) * 1024 + low % 1024) 1 else .bad 0 := by
  have hu : ¬ u < 0x80 := by have := isSurrogate_iff.mp hs; omega
  rw [headW.eq_def, if_neg hu, if_pos ⟨rfl, hs⟩]

theorem headW_32_bad {wi u : Nat} (h : wi = 32 ∧ (u > 0x10FFFF ∨ isSurrogate u)) (rest : List Nat) :
    headW wi u rest = .bad 0 := by
  have hu : ¬ u < 0x80 := fun hu => by rw [isSurrogate_iff] at h; omega
  rw [headW.eq_def, if_neg hu, if_neg (fun h16 => by omega), if_pos h]

theorem encode8_eq_run (wi : Nat) (pol : Policy) (mark : Option (List Nat)) (inp : List Nat) (pos : Nat)
    (out : List Nat) (inv : Nat) :
    encode8 wi pol mark inp pos out inv = run (headW wi) emitE8 pol mark inp pos out inv := by
  fun_induction encode8 wi pol mark inp pos out inv
  case case1 => rw [run]
  case case2 u rest _ _ _ hu ih => rw [run, headW.eq_def, if_pos hu]; simpa [emitE8, hu] using ih
  case case3 u rest _ _ _ hu hs hlow hE => rw [run, headW.eq_def, if_neg hu, if_pos hs, if_pos hlow]; simp only [hE]
  case case4 u rest _ _ _ hu hs hlow o hE ih =>
    rw [run, headW.eq_def, if_neg hu, if_pos hs, if_pos hlow]; simpa [hE] using ih
  case case5 u _ _ _ hu hs hlow => rw [run, headW.eq_def, if_neg hu, if_pos hs, if_neg hlow]
  case case6 u _ _ _ hu hs hlow low rest' hl ih =>
    have : ¬ (0x10000 + u % 1024 * 1024 + low % 1024 < 0x80) := by omega
    rw [run, headW.eq_def, if_neg hu, if_pos hs, if_neg hlow]; simpa [hl, emitE8, this] using ih
  case case7 u _ _ _ hu hs hlow low rest' hl hE =>
    rw [run, headW.eq_def, if_neg hu, if_pos hs, if_neg hlow]; simp only [hl, if_false, hE]
  case case8 u _ _ _ hu hs hlow low rest' hl o hE ih =>
    rw [run, headW.eq_def, if_neg hu, if_pos hs, if_neg hlow]; simpa [hl, hE] using ih
  case case9 u rest _ _ _ hu hs h32 hE => rw [run, headW.eq_def, if_neg hu, if_neg hs, if_pos h32]; simp only [hE]
  case case10 u rest _ _ _ hu hs h32 o hE ih =>
    rw [run, headW.eq_def, if_neg hu, if_neg hs, if_pos h32]; simpa [hE] using ih
  case case11 u rest _ _ _ hu hs h32 ih =>
    rw [run, headW.eq_def, if_neg hu, if_neg hs, if_neg h32]; simpa [emitE8, hu] using ih

theorem decode16to32_eq_run (pol : Policy) (mark : Option (List Nat)) (inp : List Nat) (pos : Nat)
    (out : List Nat) (inv : Nat) :
    decode16to32 pol mark inp pos out inv = run (headW 16) (fun c => [c]) pol mark inp pos out inv := by
  fun_induction decode16to32 pol mark inp pos out inv
  case case1 => rw [run]
  case case2 u rest _ _ _ hs hlow hE => rw [run, headW_16_surrogate hs, if_pos hlow]; simp only [hE]
  case case3 u rest _ _ _ hs hlow o hE ih => rw [run, headW_16_surrogate hs, if_pos hlow]; simpa [hE] using ih
  case case4 u _ _ _ hs hlow => rw [run, headW_16_surrogate hs, if_neg hlow]
  case case5 u _ _ _ hs hlow low rest' hl ih => rw [run, headW_16_surrogate hs, if_neg hlow]; simpa [hl] using ih
  case case6 u _ _ _ hs hlow low rest' hl hE =>
    rw [run, headW_16_surrogate hs, if_neg hlow]; simp only [hl, if_false, hE]
  case case7 u _ _ _ hs hlow low rest' hl o hE ih =>
    rw [run, headW_16_surrogate hs, if_neg hlow]; simpa [hl, hE] using ih
  case case8 u rest _ _ _ hs ih =>
    rw [run, headW_plain rest (fun h => hs h.2) (fun h => absurd h.1 (by decide))]; exact ih

theorem encode16from32_eq_run (pol : Policy) (mark : Option (List Nat)) (inp : List Nat) (pos : Nat)
    (out : List Nat) (inv : Nat) :
    encode16from32 pol mark inp pos out inv = run (headW 32) emitE16 pol mark inp pos out inv := by
  have hbad : ∀ u rest, u > 0x10FFFF ∨ isSurrogate u → headW 32 u rest = .bad 0 := fun u rest h =>
    headW_32_bad ⟨rfl, h⟩ rest
  have hok : ∀ u rest, ¬ (u > 0x10FFFF ∨ isSurrogate u) → headW 32 u rest = .scalar u 0 := fun u rest h =>
    headW_plain rest (fun h => absurd h.1 (by decide)) (fun h' => h h'.2)
  fun_induction encode16from32 pol mark inp pos out inv
  case case1 => rw [run]
  case case2 u rest _ _ _ h hE => rw [run, hbad u rest h]; simp only [hE]
  case case3 u rest _ _ _ h o hE ih => rw [run, hbad u rest h]; simpa [hE] using ih
  case case4 u rest _ _ _ h hlt ih => rw [run, hok u rest h]; simpa [emitE16, hlt] using ih
  case case5 u rest _ _ _ h hlt ih => rw [run, hok u rest h]; simpa [emitE16, hlt] using ih

theorem headW_wf (wi u : Nat) (rest : List Nat) : (headW wi u rest).extra ≤ rest.length := by
  unfold headW
  repeat' split
  all_goals simp [Ev.extra]

theorem headW_short_nil {wi u : Nat} {rest : List Nat} (h : headW wi u rest = .short) : rest = [] := by
  unfold headW at h
  repeat' split at h
  all_goals first | rfl | cases h

theorem headW_sound {wi : Nat} (hwi : wi = 16 ∨ wi = 32) {u : Nat} {rest : List Nat} {c k : Nat}
    (hu : wi = 16 → u < 2 ^ 16) (h : headW wi u rest = .scalar c k) : IsScalar c ∧ u :: rest.take k = enc wi c := by
  by_cases hs : wi = 16 ∧ isSurrogate u
  · obtain ⟨rfl, hs⟩ := hs
    have := isSurrogate_iff.mp hs
    rw [headW_16_surrogate hs] at h
    split at h
    · cases h
    split at h
    · cases h
    split at h <;> cases h
    rename_i low _ hl
    -- the pair is the UTF-16 form of the scalar it denotes
    have hn : 0x10000 ≤ 0x10000 + u % 1024 * 1024 + low % 1024 ∧ 0x10000 + u % 1024 * 1024 + low % 1024 < 0x110000 ∧
        u = 0xD800 + (0x10000 + u % 1024 * 1024 + low % 1024 - 0x10000) / 1024 ∧
        low = 0xDC00 + (0x10000 + u % 1024 * 1024 + low % 1024 - 0x10000) % 1024 := by omega
    refine ⟨⟨hn.2.1, fun h => absurd (Nat.le_trans hn.1 h.2) (by decide)⟩, ?_⟩
    rw [enc_16, enc16_2 hn.1, ← hn.2.2.1, ← hn.2.2.2]; rfl
  · by_cases h32 : wi = 32 ∧ (u > 0x10FFFF ∨ isSurrogate u)
    · rw [headW_32_bad h32] at h; cases h
    · rw [headW_plain rest hs h32] at h; cases h
      rcases hwi with rfl | rfl
      · have hc := hu rfl
        exact ⟨⟨Nat.lt_trans hc (by decide), fun h => hs ⟨rfl, isSurrogate_iff.mpr h⟩⟩, by rw [enc_16, enc16_1 hc]; rfl⟩
      · exact ⟨⟨Nat.lt_succ_of_le (Nat.le_of_not_lt fun hgt => h32 ⟨rfl, Or.inl hgt⟩),
          fun h => h32 ⟨rfl, Or.inr (isSurrogate_iff.mpr h)⟩⟩, rfl⟩

theorem headW_complete {wi : Nat} (hwi : wi = 16 ∨ wi = 32) {c : Nat} (hc : IsScalar c) {u : Nat} {tl : List Nat}
    (he : enc wi c = u :: tl) :
    (∀ rest, headW wi u (tl ++ rest) = .scalar c tl.length) ∧ ∀ j, j < tl.length → headW wi u (tl.take j) = .short := by
  obtain ⟨hlt, hns⟩ := hc
  by_cases h : wi = 16 ∧ 0x10000 ≤ c
  · obtain ⟨rfl, h⟩ := h
    rw [enc_16, enc16_2 h] at he; cases he
    -- the two halves of the pair are a high and a low surrogate that denote `c`
    have hn : (0xD800 ≤ 0xD800 + (c - 0x10000) / 1024 ∧ 0xD800 + (c - 0x10000) / 1024 ≤ 0xDFFF) ∧
        ¬ 0xD800 + (c - 0x10000) / 1024 ≥ 0xDC00 ∧
        (0xDC00 + (c - 0x10000) % 1024 ≥ 0xDC00 ∧ 0xDC00 + (c - 0x10000) % 1024 ≤ 0xDFFF) ∧
        0x10000 + (0xD800 + (c - 0x10000) / 1024) % 1024 * 1024 + (0xDC00 + (c - 0x10000) % 1024) % 1024 = c := by
      omega
    have hs := isSurrogate_iff.mpr hn.1
    refine ⟨fun rest => ?_, fun j hj => ?_⟩
    · rw [headW_16_surrogate hs, if_neg hn.2.1]
      simp only [List.cons_append, hn.2.2.2]; rw [if_pos hn.2.2.1]; rfl
    · obtain rfl : j = 0 := by simpa using hj
      rw [headW_16_surrogate hs, if_neg hn.2.1]; rfl
  · have hs := isSurrogate_false_iff.mpr hns
    have he' : enc wi c = [c] := by
      rcases hwi with rfl | rfl
      · exact enc16_1 (Nat.lt_of_not_le fun hc => h ⟨rfl, hc⟩)
      · rfl
    rw [he'] at he; cases he
    exact ⟨fun rest => headW_plain _ (fun h => by rw [hs] at h; cases h.2)
        (fun h => h.2.elim (fun hgt => absurd hlt (Nat.not_lt_of_le hgt)) (fun h => by rw [hs] at h; cases h)),
      fun j hj => absurd hj (Nat.not_lt_zero j)⟩

theorem emitE8_eq {c : Nat} (hc : IsScalar c) : emitE8 c = enc 8 c := by
  unfold emitE8
  split
  · rename_i h; rw [enc_8, enc8_1 h]
  · exact emit8_eq_enc8 c (by omega) hc.1

theorem emitE16_eq {c : Nat} (hc : IsScalar c) : emitE16 c = enc 16 c := by
  unfold emitE16
  split
  · rename_i h; rw [enc_16, enc16_1 h]
  · rw [enc_16, enc16_2 (by omega), lor_D800 _ (by have := hc.1; omega)]

theorem recognises_encode8 {wi : Nat} (hwi : wi = 16 ∨ wi = 32) : Recognises (· < 2 ^ wi) wi 8 (headW wi) emitE8 where
  sound _ _ _ _ hu h := headW_sound hwi (fun e => e ▸ hu) h
  complete _ hc _ _ he := headW_complete hwi hc he
  emit_eq _ hc := emitE8_eq hc

theorem recognises_decode16to32 : Recognises (· < 2 ^ 16) 16 32 (headW 16) (fun c => [c]) where
  sound _ _ _ _ hu h := headW_sound (Or.inl rfl) (fun _ => hu) h
  complete _ hc _ _ he := headW_complete (Or.inl rfl) hc he
  emit_eq _ _ := rfl

theorem recognises_encode16from32 : Recognises (fun _ => True) 32 16 (headW 32) emitE16 where
  sound _ _ _ _ _ h := headW_sound (Or.inr rfl) (fun e => absurd e (by decide)) h
  complete _ hc _ _ he := headW_complete (Or.inr rfl) hc he
  emit_eq _ hc := emitE16_eq hc

theorem transcode_eq_run {wi wo : Nat} (hwi : wi = 8 ∨ wi = 16 ∨ wi = 32) (hwo : wo = 8 ∨ wo = 16 ∨ wo = 32)
    (hne : wi ≠ wo) :
    ∃ hd emit, Recognises (· < 2 ^ wi) wi wo hd emit ∧
      ∀ pol mark inp out, transcode wi wo pol mark inp out = run hd emit pol mark inp 0 out 0 := by
  rcases hwi with rfl | rfl | rfl <;> rcases hwo with rfl | rfl | rfl
  · exact absurd rfl hne
  · exact ⟨_, _, (recognises_decode8 16).mono fun _ _ => trivial, fun _ _ _ _ => decode8_eq_run ..⟩
  · exact ⟨_, _, (recognises_decode8 32).mono fun _ _ => trivial, fun _ _ _ _ => decode8_eq_run ..⟩
  · exact ⟨_, _, recognises_encode8 (Or.inl rfl), fun _ _ _ _ => encode8_eq_run ..⟩
  · exact absurd rfl hne
  · exact ⟨_, _, recognises_decode16to32, fun _ _ _ _ => decode16to32_eq_run ..⟩
  · exact ⟨_, _, recognises_encode8 (Or.inr rfl), fun _ _ _ _ => encode8_eq_run ..⟩
  · exact ⟨_, _, recognises_encode16from32.mono fun _ _ => trivial, fun _ _ _ _ => encode16from32_eq_run ..⟩
  · exact absurd rfl hne

/-- the decoder that `chunkRes` runs, seen on *logical* units (after the byte-order adapter) -/
def nativeDecode (w wo : Nat) (pol : Policy) (mark : Option (List Nat)) (units out : List Nat) : Res :=
  if w = 8 then utf8Decode wo pol mark units out
  else if w = 16 then utf16Decode wo pol mark units out
  else utf32Decode wo pol mark units out

theorem ite_ind {α : Type} (P : α → Prop) {c : Prop} [Decidable c] {a b : α} (ha : P a) (hb : P b) :
    P (if c then a else b) := by
  split <;> assumption

/-- Whatever the two widths, `Transcode` and the reader's decoder run one of the four loops or one of
    the two copy loops from position 0: what holds of these six holds of both. -/
theorem dispatch_ind (P : Res → Prop) (pol : Policy) (mark : Option (List Nat)) (inp out : List Nat)
    (d8 : ∀ w, P (decode8 w pol mark inp 0 out 0)) (e8 : ∀ w, P (encode8 w pol mark inp 0 out 0))
    (d16 : P (decode16to32 pol mark inp 0 out 0)) (e16 : P (encode16from32 pol mark inp 0 out 0))
    (c16 : P (copy16 inp 0 out)) (c32 : P (copyAll inp 0 out)) (w wo : Nat) :
    P (transcode w wo pol mark inp out) ∧ P (nativeDecode w wo pol mark inp out) := by
  have enc16 : ∀ wi, P (utf16Encode wi pol mark inp out) := fun _ =>
    ite_ind P (d8 _) (ite_ind P c16 e16)
  have dec16 : ∀ wo, P (utf16Decode wo pol mark inp out) := fun _ =>
    ite_ind P (e8 _) (ite_ind P c16 d16)
  exact ⟨ite_ind P c32 (ite_ind P (e8 _) (ite_ind P (enc16 _) (ite_ind P c32 (ite_ind P (dec16 _) (d8 _))))),
    ite_ind P (d8 _) (ite_ind P (dec16 _) (ite_ind P c32 (ite_ind P (enc16 _) (e8 _))))⟩

end BSVerif.Utf
