/-
  The encoding forms and byte serialisations of the Spec and the small functions of the model
  (`isSurrogate`, `handleError`, `classify8`, `foldTails`, `emit8`, `copy16`), case by case; byte order:
  a big-endian serialisation is the little-endian one of the byte-swapped units (`bytesLE_map_reverse`),
  and a little-endian host reads little-endian bytes as the units themselves (`unitsOfBytes_bytesLE`).
-/
import BSVerif.Utf.Model
import BSVerif.Utf.Spec

namespace BSVerif.Utf
open Spec

theorem enc_8 (c : Nat) : enc 8 c = enc8 c := rfl
theorem enc_16 (c : Nat) : enc 16 c = enc16 c := rfl
theorem enc_32 (c : Nat) : enc 32 c = [c] := rfl

theorem enc8_1 {c : Nat} (h : c < 0x80) : enc8 c = [c] := if_pos h

theorem enc8_2 {c : Nat} (h1 : 0x80 ≤ c) (h2 : c < 0x800) : enc8 c = [0xC0 + c / 64, 0x80 + c % 64] := by
  rw [enc8, if_neg (by omega), if_pos h2]

theorem enc8_3 {c : Nat} (h1 : 0x800 ≤ c) (h2 : c < 0x10000) :
    enc8 c = [0xE0 + c / 4096, 0x80 + c / 64 % 64, 0x80 + c % 64] := by
  rw [enc8, if_neg (by omega), if_neg (by omega), if_pos h2]

theorem enc8_4 {c : Nat} (h : 0x10000 ≤ c) :
    enc8 c = [0xF0 + c / 262144, 0x80 + c / 4096 % 64, 0x80 + c / 64 % 64, 0x80 + c % 64] := by
  rw [enc8, if_neg (by omega), if_neg (by omega), if_neg (by omega)]

theorem enc8_bounds {c : Nat} (hc : c < 0x110000) : ∀ x ∈ enc8 c, (0 < c → 0 < x) ∧ x < 256 := by
  intro x hx
  by_cases h1 : c < 0x80
  · rw [enc8_1 h1] at hx; simp only [List.mem_cons, List.not_mem_nil, or_false] at hx; omega
  · by_cases h2 : c < 0x800
    · rw [enc8_2 (by omega) h2] at hx; simp only [List.mem_cons, List.not_mem_nil, or_false] at hx; omega
    · by_cases h3 : c < 0x10000
      · rw [enc8_3 (by omega) h3] at hx; simp only [List.mem_cons, List.not_mem_nil, or_false] at hx; omega
      · rw [enc8_4 (by omega)] at hx; simp only [List.mem_cons, List.not_mem_nil, or_false] at hx; omega

theorem enc16_1 {c : Nat} (h : c < 0x10000) : enc16 c = [c] := if_pos h

theorem enc16_2 {c : Nat} (h : 0x10000 ≤ c) :
    enc16 c = [0xD800 + (c - 0x10000) / 1024, 0xDC00 + (c - 0x10000) % 1024] := if_neg (by omega)

theorem enc16_head {c : Nat} (hc : IsScalar c) (h0 : c ≠ 0) : ∃ x us, enc16 c = x :: us ∧ 0 < x ∧ x < 65536 := by
  obtain ⟨hlt, hns⟩ := hc
  by_cases h : c < 0x10000
  · exact ⟨c, _, enc16_1 h, by omega, h⟩
  · exact ⟨_, _, enc16_2 (by omega), by omega, by omega⟩

theorem enc_ne_nil (w c : Nat) : enc w c ≠ [] := by
  unfold enc enc8 enc16 enc32
  repeat' split
  all_goals simp

theorem encs_append (w : Nat) (a b : List Nat) : encs w (a ++ b) = encs w a ++ encs w b := by
  simp [encs, List.flatMap_append]

theorem encs_eq_nil (w : Nat) (t : List Nat) (h : encs w t = []) : t = [] := by
  cases t with
  | nil => rfl
  | cons c t =>
    rw [encs_cons, List.append_eq_nil_iff] at h
    exact absurd h.1 (enc_ne_nil w c)

theorem enc_lt {w : Nat} (hw : w = 8 ∨ w = 16 ∨ w = 32) {c : Nat} (hc : IsScalar c) : ∀ x ∈ enc w c, x < 2 ^ w := by
  obtain ⟨hlt, _⟩ := hc
  intro x hx
  rcases hw with rfl | rfl | rfl
  · exact (enc8_bounds hlt x hx).2
  · rw [enc_16] at hx
    by_cases h3 : c < 0x10000
    · rw [enc16_1 h3] at hx; simp only [List.mem_cons, List.not_mem_nil, or_false] at hx; omega
    · rw [enc16_2 (by omega)] at hx; simp only [List.mem_cons, List.not_mem_nil, or_false] at hx; omega
  · rw [enc_32] at hx; simp only [List.mem_cons, List.not_mem_nil, or_false] at hx; omega

theorem encs_lt {w : Nat} (hw : w = 8 ∨ w = 16 ∨ w = 32) {t : List Nat} (ht : ∀ c ∈ t, IsScalar c) :
    ∀ x ∈ encs w t, x < 2 ^ w := by
  intro x hx
  obtain ⟨c, hc, hx⟩ := List.mem_flatMap.mp hx
  exact enc_lt hw (ht c hc) x hx

@[simp] theorem unitBytesLE_8 (u : Nat) : unitBytesLE 8 u = [u % 256] := by
  simp [unitBytesLE, List.range_succ]

@[simp] theorem unitBytesLE_16 (u : Nat) : unitBytesLE 16 u = [u % 256, u / 256 % 256] := by
  simp [unitBytesLE, List.range_succ]

@[simp] theorem unitBytesLE_32 (u : Nat) :
    unitBytesLE 32 u = [u % 256, u / 256 % 256, u / 65536 % 256, u / 16777216 % 256] := by
  simp [unitBytesLE, List.range_succ]

theorem unitBytesLE_16_of {a b : Nat} (ha : a < 256) (hb : b < 256) : unitBytesLE 16 (a + b * 256) = [a, b] := by
  rw [unitBytesLE_16]; simp only [List.cons.injEq, and_true]; omega

theorem unitBytesLE_32_of {a b c d : Nat} (ha : a < 256) (hb : b < 256) (hc : c < 256) (hd : d < 256) :
    unitBytesLE 32 (a + b * 256 + c * 65536 + d * 16777216) = [a, b, c, d] := by
  rw [unitBytesLE_32]; simp only [List.cons.injEq, and_true]; omega

theorem unitBytesLE_reverse16 (u : Nat) : unitBytesLE 16 (reverse16 u) = unitBytesBE 16 u := by
  have h : ∀ x, x % 256 < 256 := fun x => Nat.mod_lt x (by decide)
  rw [reverse16, unitBytesLE_16_of (h _) (h _), unitBytesBE, unitBytesLE_16]; rfl

theorem unitBytesLE_reverse32 (u : Nat) : unitBytesLE 32 (reverse32 u) = unitBytesBE 32 u := by
  have h : ∀ x, x % 256 < 256 := fun x => Nat.mod_lt x (by decide)
  rw [reverse32, unitBytesLE_32_of (h _) (h _) (h _) (h _), unitBytesBE, unitBytesLE_32]; rfl

theorem bytesLE_cons (w u : Nat) (us : List Nat) : bytesLE w (u :: us) = unitBytesLE w u ++ bytesLE w us := rfl
theorem bytesBE_cons (w u : Nat) (us : List Nat) : bytesBE w (u :: us) = unitBytesBE w u ++ bytesBE w us := rfl

theorem reverseUnit_lt {w : Nat} (hw : w = 16 ∨ w = 32) (u : Nat) : reverseUnit w u < 2 ^ w := by
  rcases hw with rfl | rfl
  · simp only [reverseUnit, if_true, reverse16]; omega
  · simp only [reverseUnit, show ¬ (32 = 16) by decide, if_false, if_true, reverse32]; omega

theorem unitBytesLE_reverse {w : Nat} (hw : w = 16 ∨ w = 32) (u : Nat) :
    unitBytesLE w (reverseUnit w u) = unitBytesBE w u := by
  rcases hw with rfl | rfl
  · exact unitBytesLE_reverse16 u
  · exact unitBytesLE_reverse32 u

theorem bytesLE_map_reverse {w : Nat} (hw : w = 16 ∨ w = 32) (us : List Nat) :
    bytesLE w (us.map (reverseUnit w)) = bytesBE w us := by
  induction us with
  | nil => rfl
  | cons u us ih => rw [List.map_cons, bytesLE_cons, bytesBE_cons, ih, unitBytesLE_reverse hw]

/-- a little-endian host reads the little-endian bytes of units as the units -/
theorem unitsOfBytes_bytesLE {w : Nat} (hw : w = 8 ∨ w = 16 ∨ w = 32) {v : List Nat} (hv : ∀ x ∈ v, x < 2 ^ w) :
    unitsOfBytes w (bytesLE w v) = v := by
  induction v with
  | nil => rcases hw with rfl | rfl | rfl <;> rfl
  | cons a v ih =>
    obtain ⟨ha, hv⟩ := List.forall_mem_cons.mp hv
    have ih := ih hv
    rcases hw with rfl | rfl | rfl
    · simp only [unitsOfBytes, show ¬ (8 = 16) by decide, show ¬ (8 = 32) by decide, if_false] at ih ⊢
      rw [bytesLE_cons, ih, unitBytesLE_8, Nat.mod_eq_of_lt ha]; rfl
    · simp only [unitsOfBytes, if_true] at ih ⊢
      rw [bytesLE_cons, unitBytesLE_16, List.cons_append, List.cons_append, List.nil_append, unitsOfBytes16, ih]
      congr 1; omega
    · simp only [unitsOfBytes, show ¬ (32 = 16) by decide, if_false, if_true] at ih ⊢
      rw [bytesLE_cons, unitBytesLE_32]
      simp only [List.cons_append, List.nil_append, unitsOfBytes32, ih]
      congr 1; omega

theorem unitBytesLE_inj {w : Nat} (hw : w = 8 ∨ w = 16 ∨ w = 32) {a b : Nat} (ha : a < 2 ^ w) (hb : b < 2 ^ w)
    (h : unitBytesLE w a = unitBytesLE w b) : a = b := by
  have e : ∀ x, x < 2 ^ w → unitsOfBytes w (unitBytesLE w x) = [x] := fun x hx => by
    have := unitsOfBytes_bytesLE hw (v := [x]) (by simpa using hx)
    rwa [bytesLE_cons, show bytesLE w [] = [] from rfl, List.append_nil] at this
  have := e a ha
  rw [h, e b hb] at this
  exact (List.cons.inj this).1.symm

/-- reversing twice puts the bytes back in their order, and the bytes determine the unit -/
theorem reverseUnit_involutive {w : Nat} (hw : w = 16 ∨ w = 32) {u : Nat} (hu : u < 2 ^ w) :
    reverseUnit w (reverseUnit w u) = u := by
  refine unitBytesLE_inj (Or.inr hw) (reverseUnit_lt hw _) hu ?_
  rw [unitBytesLE_reverse hw, unitBytesBE, unitBytesLE_reverse hw, unitBytesBE, List.reverse_reverse]

theorem isSurrogate_iff {c : Nat} : isSurrogate c = true ↔ 0xD800 ≤ c ∧ c ≤ 0xDFFF := by
  simp [isSurrogate]

theorem isSurrogate_false_iff {c : Nat} : isSurrogate c = false ↔ ¬ (0xD800 ≤ c ∧ c ≤ 0xDFFF) := by
  rw [← isSurrogate_iff]; simp

theorem handleError_none {out pol mark} (h : handleError out pol mark = none) : pol = .throwError := by
  cases pol
  · cases h
  · rfl

theorem handleError_some {out pol mark out'} (h : handleError out pol mark = some out') :
    pol = .skip ∧ out' = out ++ mark.getD [] := by
  cases pol
  · cases mark <;> cases h <;> simp
  · cases h

theorem decode8_step1 (w b : Nat) (hb : b < 0x80)
    (pol : Policy) (mark : Option (List Nat)) (rest : List Nat) (pos : Nat) (out : List Nat) (inv : Nat) :
    decode8 w pol mark (b :: rest) pos out inv = decode8 w pol mark rest (pos + 1) (out ++ [b]) inv := by
  rw [decode8]; simp only [hb, if_true]

theorem classify8_2 {b : Nat} (h : 0xC0 ≤ b ∧ b < 0xE0) : classify8 b = (2, b % 32, 0x80, false) := if_pos h

theorem classify8_3 {b : Nat} (h : 0xE0 ≤ b ∧ b < 0xF0) : classify8 b = (3, b % 16, 0x800, false) := by
  rw [classify8, if_neg (by omega), if_pos h]

theorem classify8_4 {b : Nat} (h : 0xF0 ≤ b ∧ b < 0xF8) : classify8 b = (4, b % 8, 0x10000, false) := by
  rw [classify8, if_neg (by omega), if_neg (by omega), if_pos h]

/-- continuation bytes, leads of 5 or 6 bytes and invalid start codes -/
theorem classify8_wrong {b : Nat} (h : ¬ (0xC0 ≤ b ∧ b < 0xF8)) : (classify8 b).2.2.2 = true := by
  rw [classify8, if_neg (by omega), if_neg (by omega), if_neg (by omega)]
  split
  · rfl
  · split <;> rfl

theorem classify8_tails_le (b : Nat) : (classify8 b).1 ≤ 6 := by
  unfold classify8
  repeat' split
  all_goals simp

theorem foldTails_wrong (ts : List Nat) (sym : Nat) : foldTails ts sym true = (sym, true) := by
  induction ts with
  | nil => rfl
  | cons t ts ih => rw [foldTails, if_pos rfl, ih]

theorem foldTails_false_iff {ts : List Nat} {sym sym' : Nat} :
    foldTails ts sym false = (sym', false) ↔
      (∀ t ∈ ts, 0x80 ≤ t ∧ t < 0xC0) ∧ sym' = ts.foldl (fun a t => a * 64 + t % 64) sym := by
  induction ts generalizing sym with
  | nil => simp [foldTails, eq_comm]
  | cons t ts ih =>
    rw [foldTails, if_neg (by simp)]
    by_cases ht : 0x80 ≤ t ∧ t < 0xC0
    · rw [if_pos ht, ih]; simp [ht]
    · rw [if_neg ht, foldTails_wrong]; simp [ht]

theorem fold64_div (a t : Nat) : (a * 64 + t % 64) / 64 = a := by omega
theorem fold64_mod (a t : Nat) : (a * 64 + t % 64) % 64 = t % 64 := by omega
theorem div_4096 (s : Nat) : s / 4096 = s / 64 / 64 := (Nat.div_div_eq_div_mul s 64 64).symm
theorem div_262144 (s : Nat) : s / 262144 = s / 64 / 64 / 64 := by
  rw [Nat.div_div_eq_div_mul, Nat.div_div_eq_div_mul]

theorem lor_F0 : ∀ x, x < 8 → (0xF0 ||| x) % 256 = 0xF0 + x := by decide

theorem lor_D800 (x : Nat) (hx : x < 1024) : (0xD800 ||| x) % 65536 = 0xD800 + x := by
  -- the low ten bits of 0xD800 = 54 · 2 ^ 10 are zero, so OR with `x < 2 ^ 10` is addition
  have h : 0xD800 ||| x = 54 <<< 10 ||| x := by rfl
  rw [h, ← Nat.shiftLeft_add_eq_or_of_lt (by simpa using hx), Nat.shiftLeft_eq]
  omega

theorem emit8_eq_enc8 (c : Nat) (h1 : 0x80 ≤ c) (h2 : c < 0x110000) : emit8 c = enc8 c := by
  unfold emit8
  by_cases a : c < 0x800
  · rw [if_pos a, enc8_2 h1 a]
  · by_cases b : c < 0x10000
    · rw [if_neg a, if_pos b, enc8_3 (by omega) b]
    · rw [if_neg a, if_neg b, enc8_4 (by omega), lor_F0 _ (by omega)]

theorem copy16_prefix (l : List Nat) (pos : Nat) (out : List Nat) :
    ∃ j code, copy16 l pos out = ⟨out ++ l.take j, code, pos + j, 0⟩ ∧ j ≤ l.length ∧
      (code = .success ∨ code = .unexpectedEnd) := by
  induction l generalizing pos out with
  | nil => exact ⟨0, .success, by simp [copy16], by simp, Or.inl rfl⟩
  | cons u rest ih =>
    rw [copy16]
    split
    · exact ⟨0, .unexpectedEnd, by simp, by simp, Or.inr rfl⟩
    · obtain ⟨j, code, h1, h2, h3⟩ := ih (pos + 1) (out ++ [u])
      refine ⟨j + 1, code, ?_, by simp; omega, h3⟩
      rw [h1]; simp [Nat.add_assoc, Nat.add_comm 1]

theorem copy16_no_high_at_end (l : List Nat) (h : ∀ u, l.getLast? = some u → ¬ (0xD800 ≤ u ∧ u < 0xDBFF))
    (pos : Nat) (out : List Nat) :
    copy16 l pos out = ⟨out ++ l, .success, pos + l.length, 0⟩ := by
  induction l generalizing pos out with
  | nil => simp [copy16]
  | cons u rest ih =>
    rw [copy16]
    by_cases hr : rest = []
    · subst hr
      have := h u (by simp)
      simp [this, copy16]
    · have hne : rest.isEmpty = false := by simpa using hr
      simp only [hne, Bool.false_eq_true, false_and, if_false]
      rw [ih (fun u hu => h u (by rw [List.getLast?_cons_of_ne_nil hr]; exact hu))]
      simp [Nat.add_assoc, Nat.add_comm 1]

/-- the standard UTF-16 form of scalars does not end in a high surrogate, so `copy16` copies all of it -/
theorem encs16_last (t : List Nat) (ht : ∀ c ∈ t, IsScalar c) :
    ∀ u, (encs 16 t).getLast? = some u → ¬ (0xD800 ≤ u ∧ u < 0xDBFF) := by
  induction t with
  | nil => simp
  | cons c t ih =>
    obtain ⟨⟨hlt, hns⟩, ht'⟩ := List.forall_mem_cons.mp ht
    intro u hu
    rw [encs_cons, List.getLast?_append] at hu
    cases hl : (encs 16 t).getLast? with
    | some v => rw [hl] at hu; simp at hu; subst hu; exact ih ht' v hl
    | none =>
      rw [hl, Option.none_or, enc_16] at hu
      by_cases h3 : c < 0x10000
      · rw [enc16_1 h3] at hu; simp at hu; omega
      · rw [enc16_2 (by omega)] at hu; simp at hu; omega

end BSVerif.Utf
