/-
  The reader invariant of the "lossless chunked reading" theorem of C13.

  `Good e wo t out X` : `out` is what has been decoded so far and `X` the bytes not yet consumed
  (window ++ unread stream) of a stream carrying the text `t` in encoding `e`: the items of the text
  (`items`, Utf/LosslessTrunc.lean) split into those already converted into `out` and those whose
  source units, serialised, are `X`.  `RInv` adds the window bookkeeping of a `Reader`.
-/
import BSVerif.Utf.LosslessTrunc

namespace BSVerif.Utf
open Spec

def Good (e : UtfType) (wo : Nat) (t out X : List Nat) : Prop :=
  ∃ a b, items e.width wo t = a ++ b ∧ out = a.flatMap (outp e.width wo) ∧
    X = encBytes e (b.flatMap (img e.width wo))

theorem good_nil (e : UtfType) (wo : Nat) (t out : List Nat) (h : Good e wo t out []) : out = encs wo t := by
  obtain ⟨a, b, h1, h2, h3⟩ := h
  have hb : b = [] := by
    cases b with
    | nil => rfl
    | cons x b =>
      have := encBytes_eq_nil e _ h3.symm
      rw [List.flatMap_cons, List.append_eq_nil_iff] at this
      exact absurd this.1 (img_ne_nil _ _ _)
  rw [h2, ← items_outp e.width wo t, h1, hb, List.append_nil]

/-- the raw 8→8 path of `ReadChunk`: the whole window is appended -/
theorem good_raw (t : List Nat) (ht : ∀ c ∈ t, IsScalar c) (out W R : List Nat) (h : Good .utf8 8 t out (W ++ R)) :
    Good .utf8 8 t (out ++ W) R := by
  obtain ⟨a, b, h1, h2, h3⟩ := h
  have hb := img_lt (Or.inl rfl) ht h1
  simp only [outp, img, show UtfType.utf8.width = 8 from rfl, if_true, List.flatMap_singleton'] at h2 h3 hb ⊢
  rw [encBytes_utf8 b hb] at h3
  have hbR : ∀ x ∈ R, x < 2 ^ 8 := fun x hx => hb x (by rw [← h3]; exact List.mem_append_right _ hx)
  refine ⟨a ++ W, R, by rw [h1, ← h3, List.append_assoc], ?_, ?_⟩
  · rw [h2]; simp only [outp, show UtfType.utf8.width = 8 from rfl, if_true, List.flatMap_singleton']
  · simp only [img, show UtfType.utf8.width = 8 from rfl, if_true, List.flatMap_singleton']
    exact (encBytes_utf8 R hbR).symm

/-- `W` is the window, `R` the pending bytes behind it; `h88`: the raw path is `good_raw` -/
theorem chunk_step (e : UtfType) (wo : Nat) (hwo : wo = 8 ∨ wo = 16 ∨ wo = 32) (h88 : ¬ (e = .utf8 ∧ wo = 8))
    (t : List Nat) (ht : ∀ c ∈ t, IsScalar c) (out W R : List Nat) (hg : Good e wo t out (W ++ R))
    (pol : Policy) (mark : Option (List Nat)) :
    ∃ res, chunkRes e wo pol mark (unitsOfBytes e.width (W.take (W.length - W.length % (e.width / 8)))) out = res ∧
      (res.code = .success ∨ res.code = .unexpectedEnd) ∧ res.iter * (e.width / 8) ≤ W.length ∧
      Good e wo t res.out ((W ++ R).drop (res.iter * (e.width / 8))) ∧
      (R = [] → res.code = .success ∧ res.iter * (e.width / 8) = W.length) := by
  have hw := width_cases e
  have h88' : ¬ (e.width = 8 ∧ wo = 8) := fun h => h88 ⟨utf8_of_width h.1, h.2⟩
  obtain ⟨a, b, h1, h2, h3⟩ := hg
  generalize hbpu : e.width / 8 = bpu at *
  have hbpu0 : 0 < bpu := by omega
  -- the unit-aligned part of the window is the serialisation of the first `k` pending units
  have hkb : W.length / bpu * bpu ≤ W.length := Nat.div_mul_le_self _ _
  have hal : W.length - W.length % bpu = W.length / bpu * bpu := by
    have := Nat.div_add_mod W.length bpu; rw [Nat.mul_comm] at this; omega
  have hW : W.take (W.length - W.length % bpu) = encBytes e ((b.flatMap (img e.width wo)).take (W.length / bpu)) := by
    rw [← hbpu, ← encBytes_take, ← h3, hbpu, hal, List.take_append_of_le_length hkb]
  rw [hW, chunkRes_encBytes e wo pol mark _ out fun x hx => img_lt hw ht h1 x (List.mem_of_mem_take hx)]
  obtain ⟨a', b', code, p1, p2, p3, p4, p5⟩ := nativeDecode_items hw hwo h88' ht h1 (W.length / bpu) pol mark out
  rw [p2]
  refine ⟨_, rfl, p3, Nat.le_trans (Nat.mul_le_mul_right _ p4) hkb,
    ⟨a ++ a', b', by rw [h1, p1, List.append_assoc], by simp only; rw [h2, List.flatMap_append], ?_⟩, fun hR => ?_⟩
  · simp only; rw [h3, ← hbpu, encBytes_drop, p1, List.flatMap_append, List.drop_left]
  · subst hR
    have hl : W.length = (b.flatMap (img e.width wo)).length * bpu := by
      rw [← hbpu, ← encBytes_length, ← h3, List.append_nil]
    obtain ⟨rfl, rfl⟩ := p5 (by rw [hl, Nat.mul_div_cancel _ hbpu0]; exact Nat.le_refl _)
    exact ⟨rfl, by simp only; rw [hl, p1, List.append_nil]⟩

structure RInv (e : UtfType) (wo : Nat) (t : List Nat) (r : Reader) (out : List Nat) : Prop where
  hutf : r.utf = e
  hwo : r.wo = wo
  hN : 32 ≤ r.N
  winv : WInv r
  eofr : r.stream.eof = true → r.stream.rest = []
  good : Good e wo t out (r.win ++ r.stream.rest)

theorem readNext_rinv {e : UtfType} {wo : Nat} {t : List Nat} {r : Reader} {out : List Nat} (h : RInv e wo t r out) :
    RInv e wo t r.readNext.2 out ∧ (r.readNext.2.win = [] → r.readNext.2.stream.rest = []) := by
  obtain ⟨hutf, hwo, hN, hinv, heofr, hgood⟩ := h
  have hinv' : r.startOff + r.win.length ≤ r.N := hinv
  rw [readNext_eq r hinv]
  obtain ⟨hcontent, s2, _, _, s5⟩ := read_spec r.stream (r.N - r.win.length)
  have hnil := read_nil r.stream (r.N - r.win.length)
  generalize r.stream.read (r.N - r.win.length) = rd at *
  obtain ⟨got, st⟩ := rd
  simp only at s2 s5 hcontent hnil ⊢
  refine ⟨⟨hutf, hwo, hN, ?_, fun he => ?_, ?_⟩, fun hw => ?_⟩
  · simp only [WInv, List.length_append]; omega
  · cases he0 : r.stream.eof
    · exact s5 he he0
    · rw [heofr he0, List.append_eq_nil_iff] at hcontent; exact hcontent.2
  · simp only; rw [List.append_assoc, hcontent]; exact hgood
  · obtain ⟨hw0, hg0⟩ := List.append_eq_nil_iff.mp hw
    rw [hg0, List.nil_append] at hcontent
    rw [hcontent]; exact hnil (by rw [hw0]; simp; omega) heofr hg0

theorem decodeChunk_rinv {e : UtfType} {wo : Nat} (hwo : wo = 8 ∨ wo = 16 ∨ wo = 32) (h88 : ¬ (e = .utf8 ∧ wo = 8))
    {t : List Nat} (ht : ∀ c ∈ t, IsScalar c) {r : Reader} {out : List Nat} (h : RInv e wo t r out) :
    ∃ out' r', r.decodeChunk out = (.success, out', r') ∧ RInv e wo t r' out' := by
  obtain ⟨hutf, hwo', hN, hinv, heofr, hgood⟩ := h
  simp only [Reader.decodeChunk, hutf, hwo']
  obtain ⟨res, c1, c2, c3, c4, c5⟩ := chunk_step e wo hwo h88 t ht out r.win r.stream.rest hgood r.pol r.mark
  rw [c1]
  cases heof : r.stream.eof
  · -- more data may follow: the window is a prefix of the pending bytes
    simp only [Bool.false_eq_true, if_false, c2, if_true]
    refine ⟨_, _, rfl, ⟨rfl, rfl, hN, ?_, ?_, ?_⟩⟩
    · simp only [WInv, List.length_drop] at *; omega
    · simp [heof]
    · simp only
      rw [List.drop_append_of_le_length c3] at c4; exact c4
  · -- the stream is exhausted: the window is all pending bytes
    have hr0 := heofr heof
    obtain ⟨c6, c7⟩ := c5 hr0
    have hdrop : List.drop (res.iter * (e.width / 8)) r.win = [] := List.drop_of_length_le (by omega)
    simp only [if_true, c6, hdrop, List.isEmpty_nil, not_true_eq_false, and_false, or_false,
      show ¬ (Code.success = Code.unexpectedEnd) by decide, if_false]
    refine ⟨_, _, rfl, ⟨rfl, rfl, hN, ?_, fun _ => hr0, ?_⟩⟩
    · simp only [WInv, List.length_nil] at *; omega
    · simp only [hr0, List.append_nil] at c4 ⊢
      rw [List.drop_of_length_le (by omega)] at c4; exact c4

theorem readChunk_step (e : UtfType) (wo : Nat) (hwo : wo = 8 ∨ wo = 16 ∨ wo = 32) (t : List Nat)
    (ht : ∀ c ∈ t, IsScalar c) (r : Reader) (out : List Nat) (h : RInv e wo t r out) :
    (∃ out' r', r.readChunk out = (.success, out', r') ∧ RInv e wo t r' out') ∨
    (∃ r', r.readChunk out = (.endFile, out, r') ∧ out = encs wo t) := by
  rw [readChunk_eq]
  split
  · rename_i hend
    simp only [Reader.isEnd, Bool.and_eq_true, List.isEmpty_iff] at hend
    have hgood := h.good
    rw [hend.1, h.eofr hend.2] at hgood
    exact Or.inr ⟨r, rfl, good_nil e wo t out hgood⟩
  obtain ⟨h1, hnil⟩ := readNext_rinv h
  generalize r.readNext.2 = r1 at *
  split
  · rename_i hw
    have hgood := h1.good
    rw [hw, hnil hw] at hgood
    exact Or.inr ⟨r1, rfl, good_nil e wo t out hgood⟩
  left
  split
  · rename_i hraw
    obtain ⟨hutf, hwo', hN, _, heofr, hgood⟩ := h1
    rw [hutf, hwo'] at hraw
    obtain ⟨rfl, rfl⟩ := hraw
    exact ⟨_, _, rfl, ⟨hutf, hwo', hN, by simp [WInv], heofr, by simpa using good_raw t ht out _ _ hgood⟩⟩
  · rename_i hraw
    exact decodeChunk_rinv hwo (by rw [← h1.hutf, ← h1.hwo]; exact hraw) ht h1

theorem readAll_lossless (e : UtfType) (wo : Nat) (hwo : wo = 8 ∨ wo = 16 ∨ wo = 32) (t : List Nat)
    (ht : ∀ c ∈ t, IsScalar c) (fuel : Nat) (r : Reader) (out : List Nat) (acc : List ReadResult)
    (h : RInv e wo t r out) (hf : r.measure < fuel) :
    ∃ n, Reader.readAll fuel r out acc
      = (acc.reverse ++ List.replicate n .success ++ [.endFile], encs wo t, false) := by
  obtain ⟨n, rl, outl, res, out', r', hI, hrc, hres, hall⟩ := readAll_of_inv (RInv e wo t)
    (fun r out out' r' h hrc => by
      rcases readChunk_step e wo hwo t ht r out h with ⟨o, r'', h1, h2⟩ | ⟨r'', h1, _⟩
      · rw [hrc, Prod.mk.injEq, Prod.mk.injEq] at h1
        obtain ⟨_, rfl, rfl⟩ := h1
        exact ⟨h2, (readChunk_success h.hN h.winv hrc).1⟩
      · rw [hrc] at h1; cases h1)
    fuel r out acc h hf
  rcases readChunk_step e wo hwo t ht rl outl hI with ⟨o, r'', h1, _⟩ | ⟨r'', h1, h2⟩
  · rw [hrc] at h1; cases h1; exact absurd rfl hres
  · rw [hrc, Prod.mk.injEq, Prod.mk.injEq] at h1
    obtain ⟨rfl, rfl, _⟩ := h1
    exact ⟨n, by rw [hall, h2]⟩

theorem mk'_eq (N wo : Nat) (pol : Policy) (mark : Option (List Nat)) (bytes : List Nat)
    (hN : 0 < N) (hb : bytes ≠ []) :
    Reader.mk' N wo pol mark bytes =
      ⟨N, wo, pol, mark, (detect (bytes.take N)).1, (detect (bytes.take N)).2,
        (bytes.take N).drop (detect (bytes.take N)).2, ⟨bytes.drop N, decide (bytes.length < N)⟩⟩ := by
  have hbl : 0 < bytes.length := List.length_pos_iff.mpr hb
  unfold Reader.mk' Reader.readNext IStream.read
  have hN0 : ¬ (0 = N) := by omega
  have hN1 : ¬ (N = 0) := by omega
  by_cases hlt : bytes.length < N
  · have ht : bytes.take N = bytes := List.take_of_length_le (by omega)
    have hd : bytes.drop N = [] := List.drop_of_length_le (by omega)
    simp [hN0, hN1, hlt, ht, hd, hb]
  · have hne : bytes.take N ≠ [] := by
      intro h
      rcases List.take_eq_nil_iff.mp h with h | h
      · omega
      · exact hb h
    simp [hN0, hN1, hlt, hne]

/-- `pre` is the BOM, or nothing -/
theorem mk'_inv (N wo : Nat) (pol : Policy) (mark : Option (List Nat)) (e : UtfType) (t : List Nat)
    (pre : List Nat) (hN : 32 ≤ N) (hpre : pre.length ≤ 4)
    (hne : pre ++ encBytes e (encs e.width t) ≠ [])
    (hdet : detect ((pre ++ encBytes e (encs e.width t)).take N) = (e, pre.length)) :
    RInv e wo t (Reader.mk' N wo pol mark (pre ++ encBytes e (encs e.width t))) [] := by
  rw [mk'_eq N wo pol mark _ (by omega) hne, hdet]
  simp only
  have hlen : pre.length ≤ ((pre ++ encBytes e (encs e.width t)).take N).length := by
    simp only [List.length_take, List.length_append]; omega
  refine ⟨rfl, rfl, hN, ?_, ?_, ?_⟩
  · simp only [WInv, List.length_drop, List.length_take]; omega
  · simp only [decide_eq_true_eq]
    intro h; exact List.drop_of_length_le (by omega)
  · simp only
    rw [← List.drop_append_of_le_length hlen, List.take_append_drop, List.drop_left]
    exact ⟨[], items e.width wo t, rfl, rfl, by rw [items_img]⟩

end BSVerif.Utf
