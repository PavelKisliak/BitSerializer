/-
  What encoding detection looks at, on Spec-serialised text: the first bytes of a text that starts with an
  ASCII character other than NUL and contains no U+0000 (the hypotheses of the `detect_*_nobom` theorems of
  Props/C13Detect.lean), and the BOMs.
-/
import BSVerif.Utf.EncBytes

namespace BSVerif.Utf
open Spec

theorem encs8_bytes_pos (ts : List Nat) (hts : ∀ x ∈ ts, IsScalar x ∧ x ≠ 0) :
    ∀ b ∈ encs 8 ts, 0 < b ∧ b < 256 := by
  intro b hb
  obtain ⟨x, hx, hb⟩ := List.mem_flatMap.mp hb
  obtain ⟨hsc, h0⟩ := hts x hx
  exact ⟨(enc8_bounds hsc.1 b hb).1 (by omega), (enc8_bounds hsc.1 b hb).2⟩

/-- the first two bytes of the UTF-16 form, in either byte order, of a text without U+0000 are not both zero -/
theorem utf16_head_bytes_ne_zero (e : UtfType) (he : e = .utf16le ∨ e = .utf16be) (ts : List Nat)
    (hts : ∀ x ∈ ts, IsScalar x ∧ x ≠ 0) :
    ∀ a b r, a :: b :: r <+: encBytes e (encs 16 ts) → a < 256 ∧ b < 256 ∧ ¬ (a = 0 ∧ b = 0) := by
  intro a b r ⟨s, h⟩
  cases ts with
  | nil => rw [encs_nil, encBytes_nil] at h; cases h
  | cons d ts =>
    obtain ⟨hd, h0⟩ := hts d (List.mem_cons_self ..)
    obtain ⟨x, us, hx, hx0, hx1⟩ : ∃ x us, enc 16 d = x :: us ∧ 0 < x ∧ x < 65536 := enc16_head hd h0
    rw [encs_cons, hx, List.cons_append (a := x), encBytes_cons] at h
    -- they are the two bytes of the first unit `x`, which is not zero
    rcases he with rfl | rfl
    · rw [show encBytes .utf16le [x] = [x % 256, x / 256 % 256] by
        simp [encBytes, bytesLE, UtfType.isBE, UtfType.width]] at h
      obtain ⟨rfl, rfl, _⟩ : a = x % 256 ∧ b = x / 256 % 256 ∧ _ := by simpa using h
      omega
    · rw [show encBytes .utf16be [x] = [x / 256 % 256, x % 256] by
        simp [encBytes, bytesBE, unitBytesBE, UtfType.isBE, UtfType.width]] at h
      obtain ⟨rfl, rfl, _⟩ : a = x / 256 % 256 ∧ b = x % 256 ∧ _ := by simpa using h
      omega

theorem encBytes_ascii (e : UtfType) {c : Nat} (hc : c < 0x80) :
    encBytes e (enc e.width c) = match e with
      | .utf8 => [c] | .utf16le => [c, 0] | .utf16be => [0, c] | .utf32le => [c, 0, 0, 0] | .utf32be => [0, 0, 0, c] := by
  have e8 : enc 8 c = [c] := enc8_1 hc
  have e16 : enc 16 c = [c] := enc16_1 (by omega)
  -- `c < 128` is its own low byte, the higher bytes are zero
  cases e <;>
    simp [encBytes, bytesLE, bytesBE, unitBytesBE, UtfType.isBE, UtfType.width, e8, e16, enc_32] <;> omega

theorem bomOf_length_le (e : UtfType) : (bomOf e).length ≤ 4 := by cases e <;> decide

theorem bomOf_ne_nil (e : UtfType) : bomOf e ≠ [] := by cases e <;> decide

/-- the side condition of `read_lossless_bom` in terms of the text: it does not start with U+0000 -/
theorem utf16le_not_zero_prefix (t : List Nat) (ht : ∀ c ∈ t, IsScalar c) (h0 : t.head? ≠ some 0) :
    ¬ [0, 0].isPrefixOf (encBytes .utf16le (encs 16 t)) := by
  cases t with
  | nil => simp [encBytes, bytesLE, UtfType.isBE]
  | cons c t =>
    obtain ⟨x, us, hx, hx0, hx1⟩ := enc16_head (ht c (List.mem_cons_self ..)) (by simpa using h0)
    rw [encs_cons, enc_16, hx]; simp [encBytes, bytesLE, UtfType.isBE, UtfType.width]; omega

end BSVerif.Utf
