/-
  What the decoder of the chunked reader does on a PREFIX of the units of a well-formed text, i.e. on
  a window that may end inside a multi-unit character.

  The reader works in one of two modes.  Between different widths it converts scalars: a prefix of
  the text comes out in the target form, and a character cut by the end of the window is left for
  the next call.  Between equal widths (`copy16`, `copyAll`) it copies units, and a chunk boundary may
  fall inside a multi-unit character.  Both are the same statement about a list of *items* —
  scalars, or units — each with a unit image in the source form and an output (`nativeDecode_items`).
-/
import BSVerif.Utf.EncBytes

namespace BSVerif.Utf
open Spec

/-- for each of the six pairs of different widths, `Decode` of the source class and `Encode` of the target
    class are the same loop (the width tests of both dispatchers, evaluated) -/
theorem nativeDecode_eq_transcode {w wo : Nat} (hw : w = 8 ∨ w = 16 ∨ w = 32) (hwo : wo = 8 ∨ wo = 16 ∨ wo = 32)
    (hne : w ≠ wo) (pol : Policy) (mark : Option (List Nat)) (inp out : List Nat) :
    nativeDecode w wo pol mark inp out = transcode w wo pol mark inp out := by
  rcases hw with rfl | rfl | rfl <;> rcases hwo with rfl | rfl | rfl <;> first | exact absurd rfl hne | rfl

/-- same width, 16 or 32 bits, on the first `k` units of a suffix `u2` of a well-formed text: some
    prefix is copied; all of `u2` when `k` covers it, since a well-formed text does not end in the
    high surrogate `copy16` refuses -/
theorem nativeDecode_same {w : Nat} (hw : w = 16 ∨ w = 32) {t : List Nat} (ht : ∀ c ∈ t, IsScalar c)
    {u1 u2 : List Nat} (hu : encs w t = u1 ++ u2) (k : Nat) (pol : Policy) (mark : Option (List Nat)) (out : List Nat) :
    ∃ j code, nativeDecode w w pol mark (u2.take k) out = ⟨out ++ u2.take j, code, j, 0⟩ ∧ j ≤ k ∧ j ≤ u2.length ∧
      (code = .success ∨ code = .unexpectedEnd) ∧ (u2.length ≤ k → j = u2.length ∧ code = .success) := by
  rcases hw with rfl | rfl
  · have e : nativeDecode 16 16 pol mark (u2.take k) out = copy16 (u2.take k) 0 out := rfl
    obtain ⟨j, code, h1, h2, h3⟩ := copy16_prefix (u2.take k) 0 out
    rw [List.length_take] at h2
    refine ⟨j, code, by rw [e, h1, List.take_take, Nat.min_eq_left (by omega), Nat.zero_add], by omega, by omega, h3,
      fun hk => ?_⟩
    have hl : ∀ u, u2.getLast? = some u → ¬ (0xD800 ≤ u ∧ u < 0xDBFF) := fun u hu2 =>
      encs16_last t ht u (by rw [hu, List.getLast?_append, hu2]; rfl)
    rw [List.take_of_length_le hk, copy16_no_high_at_end u2 hl 0 out, Res.mk.injEq] at h1
    exact ⟨by omega, h1.2.1.symm⟩
  · exact ⟨min k u2.length, .success, by simp [nativeDecode, utf32Decode, copyAll], Nat.min_le_left ..,
      Nat.min_le_right .., Or.inl rfl, fun hk => ⟨Nat.min_eq_right hk, rfl⟩⟩

/-- what a reader from width `w` to width `wo` works through: the units of the text, or its scalars -/
def items (w wo : Nat) (t : List Nat) : List Nat := if w = wo then encs w t else t

/-- the source units of an item, and what is appended for it -/
def img (w wo : Nat) : Nat → List Nat := if w = wo then fun u => [u] else enc w
def outp (w wo : Nat) : Nat → List Nat := if w = wo then fun u => [u] else enc wo

theorem items_outp (w wo : Nat) (t : List Nat) : (items w wo t).flatMap (outp w wo) = encs wo t := by
  unfold items outp
  split
  · rename_i h; subst h; exact List.flatMap_singleton' _
  · rfl

theorem items_img (w wo : Nat) (t : List Nat) : (items w wo t).flatMap (img w wo) = encs w t := by
  unfold items img
  split
  · exact List.flatMap_singleton' _
  · rfl

theorem img_ne_nil (w wo x : Nat) : img w wo x ≠ [] := by
  unfold img
  split
  · exact List.cons_ne_nil _ _
  · exact enc_ne_nil w x

theorem img_lt {w wo : Nat} (hw : w = 8 ∨ w = 16 ∨ w = 32) {t : List Nat} (ht : ∀ c ∈ t, IsScalar c) {a b : List Nat}
    (h : items w wo t = a ++ b) : ∀ x ∈ b.flatMap (img w wo), x < 2 ^ w := by
  unfold items at h; unfold img
  split at h
  · rw [if_pos ‹_›, List.flatMap_singleton']
    exact fun x hx => encs_lt hw ht x (by rw [h]; exact List.mem_append_right _ hx)
  · rw [if_neg ‹_›]
    exact encs_lt hw fun c hc => ht c (by rw [h]; exact List.mem_append_right _ hc)

/-- On the first `k` source units of the pending items `b`, the decoder converts some of them, `a'`, and stops
    in front of the rest (all of them when `k` covers their units).
    `h88`: `ReadChunk` does not decode UTF-8 to 8-bit units, it appends the window as it is (`good_raw`,
    Utf/Lossless.lean); with that pair excluded, equal widths are 16 or 32, the case of `nativeDecode_same`. -/
theorem nativeDecode_items {w wo : Nat} (hw : w = 8 ∨ w = 16 ∨ w = 32) (hwo : wo = 8 ∨ wo = 16 ∨ wo = 32)
    (h88 : ¬ (w = 8 ∧ wo = 8)) {t : List Nat} (ht : ∀ c ∈ t, IsScalar c) {a b : List Nat}
    (h : items w wo t = a ++ b) (k : Nat) (pol : Policy) (mark : Option (List Nat)) (out : List Nat) :
    ∃ a' b' code, b = a' ++ b' ∧
      nativeDecode w wo pol mark ((b.flatMap (img w wo)).take k) out
        = ⟨out ++ a'.flatMap (outp w wo), code, (a'.flatMap (img w wo)).length, 0⟩ ∧
      (code = .success ∨ code = .unexpectedEnd) ∧ (a'.flatMap (img w wo)).length ≤ k ∧
      ((b.flatMap (img w wo)).length ≤ k → b' = [] ∧ code = .success) := by
  unfold items at h; unfold img outp
  by_cases hsame : w = wo
  · subst hsame
    simp only [if_true, List.flatMap_singleton'] at h ⊢
    obtain ⟨j, code, h1, h2, h3, h4, h5⟩ := nativeDecode_same (by omega) ht h k pol mark out
    have hj : (b.take j).length = j := by rw [List.length_take]; omega
    refine ⟨b.take j, b.drop j, code, (List.take_append_drop j b).symm, by rw [h1, hj], h4, by omega, fun hk => ?_⟩
    obtain ⟨rfl, h6⟩ := h5 hk
    exact ⟨List.drop_length, h6⟩
  · simp only [if_neg hsame] at h ⊢
    obtain ⟨hd, emit, hR, he⟩ := transcode_eq_run hw hwo hsame
    rw [nativeDecode_eq_transcode hw hwo hsame, he]
    have ht2 : ∀ c ∈ b, IsScalar c := fun c hc => ht c (by rw [h]; exact List.mem_append_right _ hc)
    obtain ⟨t', t'', code, h1, h2, h3, h4, h5⟩ := run_prefix hR (pol := pol) (mark := mark) b ht2 k 0 out 0
    exact ⟨t', t'', code, h1, by simpa [encs] using h2, h3, h4, h5⟩

end BSVerif.Utf
