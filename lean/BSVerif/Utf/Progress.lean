/-
  The no-hang half of C13: every conversion loop consumes at least one unit of an input of six or
  more units unless it stops with InvalidSequence, so every successful `ReadChunk` shrinks
  `unread bytes + buffered bytes + [not yet at eof]`.
-/
import BSVerif.Utf.Stream
import BSVerif.Utf.Heads

namespace BSVerif.Utf

/-- the result stays inside `n` input units and, unless it is InvalidSequence, has moved on when
    `n ≥ 6` (six units: the longest sequence a UTF-8 lead byte can declare) -/
def Advances (n : Nat) (r : Res) : Prop :=
  r.iter ≤ n ∧ (6 ≤ n → r.code ≠ .invalidSequence → 0 < r.iter)

theorem run_advances {hd : Nat → List Nat → Ev} {emit : Nat → List Nat} {pol : Policy} {mark : Option (List Nat)}
    (hwf : ∀ u r, (hd u r).extra ≤ r.length) (hshort : ∀ u r, hd u r = .short → r.length < 5)
    (inp out : List Nat) : Advances inp.length (run hd emit pol mark inp 0 out 0) := by
  refine ⟨by simpa using (run_bounds hwf inp 0 out 0).2, fun h6 hc => ?_⟩
  match inp, h6 with
  | u :: rest, h6 =>
    exact run_iter_pos hwf u rest (fun h => by have := hshort u rest h; simp at h6; omega) 0 out 0 hc

theorem headW_advances (wi : Nat) (pol : Policy) (mark : Option (List Nat)) (emit : Nat → List Nat) (inp out : List Nat) :
    Advances inp.length (run (headW wi) emit pol mark inp 0 out 0) :=
  run_advances (headW_wf wi) (fun _ _ h => by rw [headW_short_nil h]; decide) inp out

theorem copy16_advances (inp out : List Nat) : Advances inp.length (copy16 inp 0 out) := by
  obtain ⟨j, code, h, hj, _⟩ := copy16_prefix inp 0 out
  refine ⟨by rw [h]; simpa using hj, fun h6 _ => ?_⟩
  match inp, h6 with
  | u :: low :: rest, _ =>
    -- the first of two or more units is copied whatever it is
    obtain ⟨j, code, h, _⟩ := copy16_prefix (low :: rest) (0 + 1) (out ++ [u])
    rw [copy16, if_neg (by simp), h]
    show 0 < 0 + 1 + j
    omega

theorem nativeDecode_advances (w wo : Nat) (pol : Policy) (mark : Option (List Nat)) (inp out : List Nat) :
    Advances inp.length (nativeDecode w wo pol mark inp out) :=
  (dispatch_ind (Advances inp.length) pol mark inp out
    (fun _ => decode8_eq_run .. ▸ run_advances head8_wf (fun _ _ => head8_short_len) inp out)
    (fun _ => encode8_eq_run .. ▸ headW_advances ..) (decode16to32_eq_run .. ▸ headW_advances ..)
    (encode16from32_eq_run .. ▸ headW_advances ..) (copy16_advances inp out)
    ⟨Nat.le_of_eq (Nat.zero_add _), fun h _ => by simp [copyAll]; omega⟩ w wo).2

theorem chunkRes_eq (e : UtfType) (wo : Nat) (pol : Policy) (mark : Option (List Nat)) (us out : List Nat) :
    chunkRes e wo pol mark us out
      = nativeDecode e.width wo pol mark (if e.isBE then us.map (reverseUnit e.width) else us) out := by
  cases e <;> rfl

theorem chunkRes_advances (e : UtfType) (wo : Nat) (pol : Policy) (mark : Option (List Nat)) (units out : List Nat) :
    Advances units.length (chunkRes e wo pol mark units out) := by
  rw [chunkRes_eq]
  split
  · simpa using nativeDecode_advances e.width wo pol mark (units.map (reverseUnit e.width)) out
  · exact nativeDecode_advances ..

theorem width_cases (e : UtfType) : e.width = 8 ∨ e.width = 16 ∨ e.width = 32 := by
  cases e <;> simp [UtfType.width]

theorem width_of_isBE : ∀ {e : UtfType}, e.isBE = true → e.width = 16 ∨ e.width = 32
  | .utf16be, _ => Or.inl rfl
  | .utf32be, _ => Or.inr rfl

theorem utf8_of_width : ∀ {e : UtfType}, e.width = 8 → e = .utf8
  | .utf8, _ => rfl

theorem bpu_bounds (e : UtfType) : 0 < e.width / 8 ∧ e.width / 8 ≤ 4 := by
  cases e <;> decide

theorem unitsOfBytes16_length : ∀ bs : List Nat, (unitsOfBytes16 bs).length = bs.length / 2
  | a :: b :: rest => by
    rw [unitsOfBytes16, List.length_cons, unitsOfBytes16_length rest]; simp only [List.length_cons]; omega
  | [] | [_] => by simp [unitsOfBytes16]

theorem unitsOfBytes32_length : ∀ bs : List Nat, (unitsOfBytes32 bs).length = bs.length / 4
  | a :: b :: c :: d :: rest => by
    rw [unitsOfBytes32, List.length_cons, unitsOfBytes32_length rest]; simp only [List.length_cons]; omega
  | [] | [_] | [_, _] | [_, _, _] => by simp [unitsOfBytes32]

theorem unitsOfBytes_length (e : UtfType) (bs : List Nat) :
    (unitsOfBytes e.width bs).length = bs.length / (e.width / 8) := by
  cases e <;> simp [unitsOfBytes, UtfType.width, unitsOfBytes16_length, unitsOfBytes32_length]

theorem read_spec (s : IStream) (n : Nat) :
    (s.read n).1 ++ (s.read n).2.rest = s.rest ∧
    (s.read n).1.length ≤ n ∧
    ((s.read n).2.eof = false → s.eof = false ∧ (n = 0 ∨ (s.read n).1.length = n)) ∧
    (s.eof = true → (s.read n).2.eof = true) ∧
    ((s.read n).2.eof = true → s.eof = false → (s.read n).2.rest = []) := by
  unfold IStream.read
  split
  · simp [*]
  · split
    · simp [*]
    · split
      · simp [*]; omega
      · simp [*, List.length_take]; omega

theorem read_nil (s : IStream) (n : Nat) (hn : 0 < n) (h : s.eof = true → s.rest = [])
    (hg : (s.read n).1 = []) : s.rest = [] := by
  obtain ⟨h1, _, h3, _, h5⟩ := read_spec s n
  rw [hg, List.nil_append] at h1
  cases he : s.eof
  · cases he' : (s.read n).2.eof
    · have := (h3 he').2; rw [hg] at this; simp at this; omega
    · rw [← h1]; exact h5 he' he
  · exact h he

/-- window invariant of `CEncodedStreamReader`: the start and end pointers stay inside the `N`-byte buffer -/
def WInv (r : Reader) : Prop := r.startOff + r.win.length ≤ r.N

theorem readNext_eq (r : Reader) (hinv : WInv r) :
    r.readNext = (!(r.stream.read (r.N - r.win.length)).1.isEmpty,
      { r with startOff := 0, win := r.win ++ (r.stream.read (r.N - r.win.length)).1,
               stream := (r.stream.read (r.N - r.win.length)).2 }) := by
  unfold WInv at hinv
  unfold Reader.readNext
  by_cases h1 : r.startOff = r.N
  · have hw : r.win = [] := List.eq_nil_of_length_eq_zero (by omega)
    simp [h1, hw]
  · by_cases h2 : r.startOff = 0
    · simp [h2, show ¬ (0 = r.N) by omega]
    · simp [h1, h2]

theorem readNext_spec (r : Reader) (hinv : WInv r) :
    r.readNext.2.N = r.N ∧ r.readNext.2.startOff = 0 ∧ r.readNext.2.win.length ≤ r.N ∧
    r.readNext.2.measure ≤ r.measure ∧
    (r.readNext.2.stream.eof = false → r.N ≤ r.readNext.2.win.length) := by
  rw [readNext_eq r hinv]
  unfold WInv at hinv
  obtain ⟨h1, h2, h3, h4, _⟩ := read_spec r.stream (r.N - r.win.length)
  have h1 := congrArg List.length h1
  generalize r.stream.read (r.N - r.win.length) = rd at *
  obtain ⟨got, st⟩ := rd
  simp only [List.length_append] at h1 h2 h3 h4
  refine ⟨rfl, rfl, by simp only [List.length_append]; omega, ?_,
    fun he => by have := h3 he; simp only [List.length_append]; omega⟩
  -- the bytes read move from the stream into the window (`h1`), and eof, once set, stays set (`h4`)
  simp only [Reader.measure, List.length_append]
  cases he : st.eof <;> cases he0 : r.stream.eof <;> simp_all <;> omega

theorem readNext_fst_eq_false (r : Reader) (h : r.readNext.2.win = []) : r.readNext.1 = false := by
  unfold Reader.readNext at h ⊢
  dsimp only at h ⊢
  generalize r.stream.read _ = rd at h ⊢
  obtain ⟨got, st⟩ := rd
  rw [(List.append_eq_nil_iff.mp h).2]; rfl

theorem decodeChunk_success {r r' : Reader} {out out' : List Nat} (h : r.decodeChunk out = (.success, out', r')) :
    r'.stream = r.stream ∧ r'.N = r.N ∧ r'.startOff + r'.win.length ≤ r.startOff + r.win.length ∧
    (r.stream.eof = true → r'.win = []) ∧
    (r.stream.eof = false → 32 ≤ r.win.length → r'.win.length < r.win.length) := by
  obtain ⟨hb0, hb4⟩ := bpu_bounds r.utf
  have hul := unitsOfBytes_length r.utf (r.win.take (r.win.length - r.win.length % (r.utf.width / 8)))
  obtain ⟨hbd, hpos⟩ := chunkRes_advances r.utf r.wo r.pol r.mark
    (unitsOfBytes r.utf.width (r.win.take (r.win.length - r.win.length % (r.utf.width / 8)))) out
  simp only [Reader.decodeChunk] at h
  generalize chunkRes r.utf r.wo r.pol r.mark
    (unitsOfBytes r.utf.width (r.win.take (r.win.length - r.win.length % (r.utf.width / 8)))) out = res at *
  generalize r.utf.width / 8 = bpu at *
  -- the aligned part of the window holds `win.length / bpu` whole units
  have hal : (r.win.length - r.win.length % bpu) / bpu = r.win.length / bpu := by
    have h : r.win.length - r.win.length % bpu = bpu * (r.win.length / bpu) := by
      have := Nat.div_add_mod r.win.length bpu; omega
    rw [h, Nat.mul_div_cancel_left _ hb0]
  rw [hul, List.length_take, Nat.min_eq_left (Nat.sub_le ..), hal] at hbd hpos
  have hcons : res.iter * bpu ≤ r.win.length :=
    Nat.le_trans (Nat.mul_le_mul_right _ hbd) (Nat.div_mul_le_self _ _)
  -- 32 bytes hold the six units of `Advances`, whatever the width
  have hpos' : 32 ≤ r.win.length → res.code ≠ .invalidSequence → 0 < res.iter * bpu := fun h32 hc =>
    Nat.mul_pos (hpos ((Nat.le_div_iff_mul_le hb0).mpr (by omega)) hc) hb0
  have hdrop : r.startOff + res.iter * bpu + (r.win.drop (res.iter * bpu)).length ≤ r.startOff + r.win.length := by
    rw [List.length_drop]; omega
  clear hul hpos hbd
  split at h
  · rename_i heof
    have hne : r.stream.eof = false → 32 ≤ r.win.length → r'.win.length < r.win.length := fun h => by
      rw [heof] at h; cases h
    split at h
    · split at h <;> cases h
      exact ⟨rfl, rfl, Nat.zero_le _, fun _ => rfl, hne⟩
    · rename_i hc
      split at h <;> cases h
      rename_i hs
      exact ⟨rfl, rfl, hdrop, fun _ => List.isEmpty_iff.mp (Decidable.not_not.mp fun h => hc (Or.inr ⟨hs, h⟩)), hne⟩
  · rename_i heof
    split at h <;> cases h
    rename_i hc
    have hni : res.code ≠ .invalidSequence := by rcases hc with h | h <;> rw [h] <;> decide
    refine ⟨rfl, rfl, hdrop, fun h => absurd h heof, fun _ h32 => ?_⟩
    have := hpos' h32 hni
    simp only [List.length_drop]; omega

/-- `ReadChunk` in terms of the state `ReadNextEncodedChunk` leaves: the second EndFile test only asks
    whether the window is empty, since an empty window has received nothing -/
theorem readChunk_eq (r : Reader) (out : List Nat) :
    r.readChunk out =
      if r.isEnd then (.endFile, out, r)
      else if r.readNext.2.win = [] then (.endFile, out, r.readNext.2)
      else if r.readNext.2.utf = .utf8 ∧ r.readNext.2.wo = 8 then
        (.success, out ++ r.readNext.2.win, { r.readNext.2 with startOff := 0, win := [] })
      else r.readNext.2.decodeChunk out := by
  unfold Reader.readChunk
  split
  · rfl
  · have hn := readNext_fst_eq_false r
    generalize r.readNext = rn at hn ⊢
    obtain ⟨any, r1⟩ := rn
    dsimp only at hn ⊢
    by_cases hw : r1.win = []
    · simp [hw, hn hw]
    · simp [hw]

theorem readChunk_success {r r' : Reader} {out out' : List Nat} (hN : 32 ≤ r.N) (hinv : WInv r)
    (h : r.readChunk out = (.success, out', r')) : r'.measure < r.measure ∧ WInv r' ∧ r'.N = r.N := by
  obtain ⟨mN, m0, mle, m1, m2⟩ := readNext_spec r hinv
  rw [readChunk_eq] at h
  generalize r.readNext.2 = r1 at *
  split at h
  · cases h
  split at h
  · cases h
  rename_i hwin
  have hwin1 : 0 < r1.win.length := List.length_pos_iff.mpr hwin
  unfold Reader.measure at m1 ⊢
  split at h
  · cases h
    exact ⟨by simp only [List.length_nil]; omega, Nat.zero_le _, mN⟩
  · obtain ⟨d1, d2, d3, d5, d6⟩ := decodeChunk_success h
    refine ⟨?_, by unfold WInv; omega, by omega⟩
    rw [d1]
    cases he1 : r1.stream.eof <;> simp only [he1, Bool.false_eq_true, if_false, if_true] at m1 ⊢
    · have := d6 he1 (by have := m2 he1; omega); omega
    · rw [d5 he1]; simp only [List.length_nil]; omega

/-- A caller that loops on `ReadChunk` from a state satisfying an invariant `I` that successful calls
    keep gets some number of Success results and then the result of a last call made in a state
    satisfying `I`; enough fuel is more than the progress measure. -/
theorem readAll_of_inv (I : Reader → List Nat → Prop)
    (hstep : ∀ r out out' r', I r out → r.readChunk out = (.success, out', r') → I r' out' ∧ r'.measure < r.measure)
    (fuel : Nat) (r : Reader) (out : List Nat) (acc : List ReadResult) (h : I r out) (hf : r.measure < fuel) :
    ∃ n rl outl res out' r', I rl outl ∧ rl.readChunk outl = (res, out', r') ∧ res ≠ .success ∧
      Reader.readAll fuel r out acc = (acc.reverse ++ List.replicate n .success ++ [res], out', false) := by
  induction fuel generalizing r out acc with
  | zero => omega
  | succ fuel ih =>
    unfold Reader.readAll
    generalize hrc : r.readChunk out = rc
    obtain ⟨res, out', r'⟩ := rc
    cases res with
    | success =>
      obtain ⟨hI, hm⟩ := hstep r out out' r' h hrc
      obtain ⟨n, rl, outl, res, o, r'', h1, h2, h3, h4⟩ := ih r' out' (.success :: acc) hI (by omega)
      exact ⟨n + 1, rl, outl, res, o, r'', h1, h2, h3, by simp only []; rw [h4, List.replicate_succ]; simp⟩
    | decodeError => exact ⟨0, r, out, _, _, _, h, hrc, by decide, by simp⟩
    | endFile => exact ⟨0, r, out, _, _, _, h, hrc, by decide, by simp⟩

theorem readAll_no_hang (fuel : Nat) (r : Reader) (out : List Nat) (acc : List ReadResult)
    (hN : 32 ≤ r.N) (hinv : WInv r) (hf : r.measure < fuel) :
    (Reader.readAll fuel r out acc).2.2 = false := by
  obtain ⟨n, _, _, _, _, _, _, _, _, h⟩ := readAll_of_inv (fun r _ => 32 ≤ r.N ∧ WInv r)
    (fun r out out' r' h hrc => by
      have := readChunk_success h.1 h.2 hrc
      exact ⟨⟨by rw [this.2.2]; exact h.1, this.2.1⟩, this.1⟩)
    fuel r out acc ⟨hN, hinv⟩ hf
  rw [h]

theorem detect_offset_le (s : List Nat) : (detect s).2 ≤ s.length := by
  -- each branch of `DetectEncoding` returns 0 or the length of a BOM that starts the input
  have hp : ∀ {b : List Nat} {p q : UtfType × Nat}, (startsWith b s = true → p.2 ≤ s.length) → q.2 ≤ s.length →
      (if startsWith b s = true then p else q).2 ≤ s.length := fun hp hq => by
    split
    · exact hp ‹_›
    · exact hq
  have hb : ∀ {b : List Nat} {t : UtfType}, startsWith b s = true → (t, b.length).2 ≤ s.length := fun h =>
    (List.isPrefixOf_iff_prefix.mp h).length_le
  unfold detect
  split
  · exact Nat.zero_le _
  · exact hp hb (hp hb (hp hb (hp hb (hp hb (Nat.zero_le _)))))

theorem mk'_spec (N wo : Nat) (pol : Policy) (mark : Option (List Nat)) (bytes : List Nat) :
    WInv (Reader.mk' N wo pol mark bytes) ∧ (Reader.mk' N wo pol mark bytes).N = N ∧
    (Reader.mk' N wo pol mark bytes).measure ≤ bytes.length + 1 := by
  obtain ⟨mN, m0, mle, m1, _⟩ := readNext_spec ⟨N, wo, pol, mark, .utf8, 0, [], ⟨bytes, false⟩⟩
    (show 0 + 0 ≤ N from Nat.zero_le N)
  unfold Reader.mk'
  simp only
  generalize Reader.readNext ⟨N, wo, pol, mark, .utf8, 0, [], ⟨bytes, false⟩⟩ = rn at *
  obtain ⟨any, r1⟩ := rn
  have hm : r1.stream.rest.length + r1.win.length + (if r1.stream.eof = true then 0 else 1) ≤ bytes.length + 1 := by
    simpa [Reader.measure] using m1
  simp only at mN m0 mle ⊢
  cases any
  · rw [if_neg (by decide)]
    exact ⟨by unfold WInv; omega, mN, hm⟩
  · have hoff := detect_offset_le r1.win
    simp only [if_true, WInv, Reader.measure, List.length_drop]
    exact ⟨by omega, mN, by omega⟩

end BSVerif.Utf
