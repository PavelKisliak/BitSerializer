/-
  The four conversion loops of the model (`decode8`, `encode8`, `decode16to32`, `encode16from32`)
  are instances of one loop `run hd emit`: look at the head of the input with a recogniser `hd`
  (a scalar, an ill-formed subsequence, or a sequence cut by the end of the input), append
  `emit c` or handle the error, go on behind it.  Everything the properties need is proved
  here once for `run`, from what is known about `hd` and `emit`; `Utf/Heads.lean` shows that the
  four loops are such instances.
-/
import BSVerif.Utf.Lemmas
import BSVerif.Utf.Shape

namespace BSVerif.Utf
open Spec

/-- what a recogniser sees at the head `u :: rest`; `k` = number of units consumed after `u`
    (one less than the `len` of `Spec.Seg`, which counts `u`) -/
inductive Ev where
  | scalar (c k : Nat)
  | bad (k : Nat)
  | short

def Ev.extra : Ev → Nat
  | .scalar _ k => k
  | .bad k => k
  | .short => 0

def run (hd : Nat → List Nat → Ev) (emit : Nat → List Nat) (pol : Policy) (mark : Option (List Nat)) :
    List Nat → Nat → List Nat → Nat → Res
  | [], pos, out, inv => ⟨out, .success, pos, inv⟩
  | u :: rest, pos, out, inv =>
    match hd u rest with
    | .scalar c k => run hd emit pol mark (rest.drop k) (pos + 1 + k) (out ++ emit c) inv
    | .bad k =>
      match handleError out pol mark with
      | none => ⟨out, .invalidSequence, pos, inv + 1⟩
      | some out' => run hd emit pol mark (rest.drop k) (pos + 1 + k) out' (inv + 1)
    | .short => ⟨out, .unexpectedEnd, pos, inv⟩
termination_by l => l.length
decreasing_by all_goals (simp [List.length_drop]; omega)

/-- `hd`/`emit` convert the encoding form `wi` into `wo`: what `hd` accepts at a unit satisfying `P`
    (the range of the C++ unit type, where it matters) is a standard encoding, every standard encoding
    is accepted whatever follows, a proper prefix of one is reported as cut, and `emit` writes the
    standard encoding. -/
structure Recognises (P : Nat → Prop) (wi wo : Nat) (hd : Nat → List Nat → Ev) (emit : Nat → List Nat) : Prop where
  sound : ∀ u r c k, P u → hd u r = .scalar c k → IsScalar c ∧ u :: r.take k = enc wi c
  complete : ∀ c, IsScalar c → ∀ u tl, enc wi c = u :: tl →
    (∀ rest, hd u (tl ++ rest) = .scalar c tl.length) ∧ ∀ j, j < tl.length → hd u (tl.take j) = .short
  emit_eq : ∀ c, IsScalar c → emit c = enc wo c

theorem Recognises.mono {P Q : Nat → Prop} {wi wo hd emit} (h : Recognises P wi wo hd emit) (hPQ : ∀ u, Q u → P u) :
    Recognises Q wi wo hd emit :=
  ⟨fun u r c k hu => h.sound u r c k (hPQ u hu), h.complete, h.emit_eq⟩

section
variable {hd : Nat → List Nat → Ev} {emit : Nat → List Nat} {pol : Policy} {mark : Option (List Nat)}

theorem run_bounds (hwf : ∀ u r, (hd u r).extra ≤ r.length) (inp : List Nat) (pos : Nat) (out : List Nat) (inv : Nat) :
    pos ≤ (run hd emit pol mark inp pos out inv).iter ∧
    (run hd emit pol mark inp pos out inv).iter ≤ pos + inp.length := by
  fun_induction run hd emit pol mark inp pos out inv
  case case1 => simp
  case case2 u rest _ _ _ c k h ih =>
    have := hwf u rest; rw [h] at this
    simp only [List.length_drop, List.length_cons, Ev.extra] at *; omega
  case case3 => simp
  case case4 u rest _ _ _ k h _ _ ih =>
    have := hwf u rest; rw [h] at this
    simp only [List.length_drop, List.length_cons, Ev.extra] at *; omega
  case case5 => simp

theorem run_iter_pos (hwf : ∀ u r, (hd u r).extra ≤ r.length) (u : Nat) (rest : List Nat) (hns : hd u rest ≠ .short)
    (pos : Nat) (out : List Nat) (inv : Nat)
    (hc : (run hd emit pol mark (u :: rest) pos out inv).code ≠ .invalidSequence) :
    pos < (run hd emit pol mark (u :: rest) pos out inv).iter := by
  rw [run] at hc ⊢
  cases h : hd u rest with
  | scalar c k => exact Nat.lt_of_lt_of_le (by omega) (run_bounds hwf ..).1
  | bad k =>
    rw [h] at hc
    cases hE : handleError out pol mark with
    | none => rw [hE] at hc; exact absurd rfl hc
    | some o => exact Nat.lt_of_lt_of_le (by omega) (run_bounds hwf ..).1
  | short => exact absurd h hns

variable {P : Nat → Prop} {wi wo : Nat} (hR : Recognises P wi wo hd emit)
include hR

theorem run_shape (inp : List Nat) (hin : ∀ u ∈ inp, P u) (pos : Nat) (out : List Nat) (inv : Nat) :
    Shape wo pol mark out inv (run hd emit pol mark inp pos out inv) := by
  fun_induction run hd emit pol mark inp pos out inv
  case case1 => exact shape_stop _ _ (by simp)
  case case2 u rest _ _ _ c k h ih =>
    have hc := (hR.sound u rest c k (hin u (by simp)) h).1
    exact shape_scalar c hc _ (hR.emit_eq c hc) (ih fun x hx => hin x (List.mem_cons_of_mem _ (List.mem_of_mem_drop hx)))
  case case3 hE => rw [handleError_none hE]; exact shape_throw _
  case case4 hE ih =>
    obtain ⟨rfl, rfl⟩ := handleError_some hE
    exact shape_mark (ih fun x hx => hin x (List.mem_cons_of_mem _ (List.mem_of_mem_drop hx)))
  case case5 => exact shape_stop _ _ (by simp)

theorem run_throw_sound (inp : List Nat) (hin : ∀ u ∈ inp, P u) (pos : Nat) (out : List Nat) (inv : Nat) :
    (run hd emit .throwError mark inp pos out inv).code = .success →
    ∃ t, (∀ c ∈ t, IsScalar c) ∧ inp = encs wi t ∧ (run hd emit .throwError mark inp pos out inv).out = out ++ encs wo t := by
  fun_induction run hd emit .throwError mark inp pos out inv
  case case1 => exact fun _ => ⟨[], by simp, rfl, by simp⟩
  case case2 u rest _ _ _ c k h ih =>
    intro hs
    obtain ⟨hc, he⟩ := hR.sound u rest c k (hin u (by simp)) h
    obtain ⟨t, h1, h2, h3⟩ := ih (fun x hx => hin x (List.mem_cons_of_mem _ (List.mem_of_mem_drop hx))) hs
    refine ⟨c :: t, List.forall_mem_cons.mpr ⟨hc, h1⟩, ?_, ?_⟩
    · rw [encs_cons, ← he, ← h2, List.cons_append, List.take_append_drop]
    · rw [h3, hR.emit_eq c hc, encs_cons, List.append_assoc]
  case case3 => intro h; cases h
  case case4 hE _ => cases hE
  case case5 => intro h; cases h

theorem run_enc (c : Nat) (hc : IsScalar c) (rest : List Nat) (pos : Nat) (out : List Nat) (inv : Nat) :
    run hd emit pol mark (enc wi c ++ rest) pos out inv
      = run hd emit pol mark rest (pos + (enc wi c).length) (out ++ enc wo c) inv := by
  cases he : enc wi c with
  | nil => exact absurd he (enc_ne_nil wi c)
  | cons u tl =>
    rw [List.cons_append, run, (hR.complete c hc u tl he).1 rest]
    simp only [List.drop_left, hR.emit_eq c hc, List.length_cons, Nat.add_assoc, Nat.add_comm 1]

theorem run_cut (c : Nat) (hc : IsScalar c) (k : Nat) (hk0 : 0 < k) (hk : k < (enc wi c).length)
    (pos : Nat) (out : List Nat) (inv : Nat) :
    run hd emit pol mark ((enc wi c).take k) pos out inv = ⟨out, .unexpectedEnd, pos, inv⟩ := by
  cases he : enc wi c with
  | nil => rw [he] at hk; exact absurd hk (Nat.not_lt_zero k)
  | cons u tl =>
    obtain ⟨j, rfl⟩ : ∃ j, k = j + 1 := ⟨k - 1, by omega⟩
    rw [he, List.length_cons] at hk
    rw [List.take_succ_cons, run, (hR.complete c hc u tl he).2 j (by omega)]

theorem run_prefix (t : List Nat) (ht : ∀ c ∈ t, IsScalar c) (k pos : Nat) (out : List Nat) (inv : Nat) :
    ∃ t' t'' code, t = t' ++ t'' ∧
      run hd emit pol mark ((encs wi t).take k) pos out inv = ⟨out ++ encs wo t', code, pos + (encs wi t').length, inv⟩ ∧
      (code = .success ∨ code = .unexpectedEnd) ∧ (encs wi t').length ≤ k ∧
      ((encs wi t).length ≤ k → t'' = [] ∧ code = .success) := by
  induction t generalizing k pos out with
  | nil => exact ⟨[], [], .success, rfl, by simp [run], Or.inl rfl, by simp, fun _ => ⟨rfl, rfl⟩⟩
  | cons c t ih =>
    obtain ⟨hc, ht'⟩ := List.forall_mem_cons.mp ht
    by_cases hk : (enc wi c).length ≤ k
    · obtain ⟨t', t'', code, h1, h2, h3, h4, h5⟩ := ih ht' (k - (enc wi c).length) (pos + (enc wi c).length) (out ++ enc wo c)
      refine ⟨c :: t', t'', code, by rw [h1]; rfl, ?_, h3, ?_, ?_⟩
      · have hk' : k = (enc wi c).length + (k - (enc wi c).length) := by omega
        rw [encs_cons, hk', List.take_length_add_append, run_enc hR c hc, h2]
        simp [Nat.add_assoc]
      · simp only [encs_cons, List.length_append]; omega
      · intro hl; simp only [encs_cons, List.length_append] at hl; exact h5 (by omega)
    · have hpos : 0 < (enc wi c).length := List.length_pos_iff.mpr (enc_ne_nil wi c)
      by_cases hk0 : k = 0
      · subst hk0
        exact ⟨[], c :: t, .success, rfl, by simp [run], Or.inl rfl, by simp, fun hl => by
          simp only [encs_cons, List.length_append] at hl; omega⟩
      · refine ⟨[], c :: t, .unexpectedEnd, rfl, ?_, Or.inr rfl, by simp, fun hl => by
          simp only [encs_cons, List.length_append] at hl; omega⟩
        rw [encs_cons, List.take_append_of_le_length (by omega), run_cut hR c hc k (by omega) (by omega)]
        simp

theorem run_valid (t : List Nat) (ht : ∀ c ∈ t, IsScalar c) (pos : Nat) (out : List Nat) (inv : Nat) :
    run hd emit pol mark (encs wi t) pos out inv = ⟨out ++ encs wo t, .success, pos + (encs wi t).length, inv⟩ := by
  obtain ⟨t', t'', code, h1, h2, _, _, h5⟩ := run_prefix hR (pol := pol) (mark := mark) t ht (encs wi t).length pos out inv
  obtain ⟨rfl, rfl⟩ := h5 (Nat.le_refl _)
  rw [List.take_length] at h2
  rw [h2, h1, List.append_nil]

end

end BSVerif.Utf
