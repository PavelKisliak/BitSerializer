/-
  The "shape" of every result of the transcoding loops, for all inputs, well-formed or not (C12).
-/
import BSVerif.Utf.Model
import BSVerif.Utf.Spec

namespace BSVerif.Utf
open Spec

/-- output pieces: `some c` = the standard encoding of scalar `c`, `none` = one error mark -/
def render (wo : Nat) (mark : Option (List Nat)) : List (Option Nat) → List Nat
  | [] => []
  | some c :: r => enc wo c ++ render wo mark r
  | none :: r => mark.getD [] ++ render wo mark r

/-- What every result looks like: prior output preserved; appended part = encodings of scalars and
    marks; under Skip the invalid count is the number of marks and InvalidSequence never occurs;
    under ThrowError no mark is ever written and the count is 1 exactly when failing. -/
def Shape (wo : Nat) (pol : Policy) (mark : Option (List Nat)) (out : List Nat) (inv : Nat) (r : Res) : Prop :=
  ∃ items : List (Option Nat),
    r.out = out ++ render wo mark items ∧ (∀ c, some c ∈ items → IsScalar c) ∧
    (pol = .skip → r.invalid = inv + items.count none ∧ r.code ≠ .invalidSequence) ∧
    (pol = .throwError → none ∉ items ∧ r.invalid = inv + (if r.code = .invalidSequence then 1 else 0))

theorem shape_stop {wo pol mark out inv} (code : Code) (pos : Nat) (hc : code ≠ .invalidSequence) :
    Shape wo pol mark out inv ⟨out, code, pos, inv⟩ := by
  refine ⟨[], ?_, ?_, ?_, ?_⟩ <;> simp [render, hc]

theorem shape_throw {wo mark out inv} (pos : Nat) :
    Shape wo .throwError mark out inv ⟨out, .invalidSequence, pos, inv + 1⟩ := by
  refine ⟨[], ?_, ?_, ?_, ?_⟩ <;> simp [render]

theorem shape_scalar {wo pol mark out inv r} (c : Nat) (hc : IsScalar c) (e : List Nat) (he : e = enc wo c)
    (h : Shape wo pol mark (out ++ e) inv r) : Shape wo pol mark out inv r := by
  subst he
  obtain ⟨items, h1, h2, h3, h4⟩ := h
  refine ⟨some c :: items, by simp [render, h1], ?_, ?_, ?_⟩
  · intro x hx; simp at hx; rcases hx with rfl | hx; exact hc; exact h2 x hx
  · intro hp; simpa using h3 hp
  · intro hp; have := h4 hp; simp_all

theorem shape_mark {wo mark out inv r}
    (h : Shape wo .skip mark (out ++ mark.getD []) (inv + 1) r) : Shape wo .skip mark out inv r := by
  obtain ⟨items, h1, h2, h3, h4⟩ := h
  refine ⟨none :: items, by simp [render, h1], ?_, ?_, ?_⟩
  · intro x hx; simp at hx; exact h2 x hx
  · intro hp; have := h3 hp; simp_all; omega
  · intro hp; cases hp

end BSVerif.Utf
