/-
  The model's trace equals the Spec's failing list; the error-map machine in closed form; the trace up to the first
  mismatched value under ThrowError.
-/
import BSVerif.Valid.Spec

namespace BSVerif.Valid
open BSVerif.Scope BSVerif.Scope.Spec

theorem check_eq (v : Validator) (seen : Seen) (loaded : Bool) :
    v.check seen loaded = if Spec.fails v seen loaded then some (Spec.message v) else none := by
  cases v with
  | required msg => cases loaded <;> rfl
  | range lo hi msg =>
    cases loaded
    · rfl
    · have : (seen.int < lo ∨ seen.int > hi) ↔ (!(decide (lo ≤ seen.int) && decide (seen.int ≤ hi))) = true := by
        simp only [Bool.not_eq_true', Bool.and_eq_false_iff, decide_eq_false_iff_not]; omega
      simp only [Validator.check, Spec.fails, Spec.message, Bool.not_true, Bool.false_eq_true, if_false, Bool.true_and, this]
      rfl
  | minSize n msg =>
    cases loaded
    · rfl
    · simp only [Validator.check, Spec.fails, Spec.message, Bool.not_true, Bool.false_eq_true, if_false, Bool.true_and,
        decide_eq_true_eq]
      by_cases h : seen.size ≥ n
      · rw [if_pos h, if_neg (Nat.not_lt.mpr h)]
      · rw [if_neg h, if_pos (Nat.lt_of_not_le h)]; rfl
  | maxSize n msg =>
    cases loaded
    · rfl
    · simp only [Validator.check, Spec.fails, Spec.message, Bool.not_true, Bool.false_eq_true, if_false, Bool.true_and,
        decide_eq_true_eq]
      by_cases h : seen.size ≤ n
      · rw [if_pos h, if_neg (Nat.not_lt.mpr h)]
      · rw [if_neg h, if_pos (Nat.lt_of_not_le h)]; rfl
  | verdict pass msg => cases loaded <;> cases pass <;> rfl
  | custom f msg => rfl

theorem check_none_iff (v : Validator) (seen : Seen) (loaded : Bool) :
    v.check seen loaded = none ↔ Spec.fails v seen loaded = false := by
  rw [check_eq]
  cases Spec.fails v seen loaded <;> simp

/-- an error map as the trace that builds it: one `(path, message)` per message, entry by entry -/
def flattenFailing (l : List (String × List String)) : List (String × String) :=
  l.flatMap fun e => e.2.map fun m => (e.1, m)

theorem flattenFailing_append (a b : List (String × List String)) :
    flattenFailing (a ++ b) = flattenFailing a ++ flattenFailing b := List.flatMap_append

/-- the trace of a list of visited fields: each reports the messages of its failing validators under its path -/
def occTrace (os : List Spec.Occ) : List (String × String) :=
  os.flatMap fun o => (Spec.occMessages o).map fun m => (o.path, m)

theorem occTrace_append (a b : List Spec.Occ) : occTrace (a ++ b) = occTrace a ++ occTrace b :=
  List.flatMap_append

theorem occTrace_cons (o : Spec.Occ) (os : List Spec.Occ) : occTrace (o :: os) = occTrace [o] ++ occTrace os :=
  occTrace_append [o] os

theorem occTrace_nil : occTrace [] = [] := rfl

theorem occTrace_flatMap {β : Type} (l : List β) (g : β → List Spec.Occ) :
    occTrace (l.flatMap g) = l.flatMap fun x => occTrace (g x) :=
  List.flatMap_assoc

theorem visitArgs_eq (path : String) (vs : List Validator) (seen : Seen) (loaded : Bool) :
    visitArgs path vs seen loaded = occTrace [⟨path, vs, seen, loaded⟩] := by
  simp only [occTrace, List.flatMap_cons, List.flatMap_nil, List.append_nil, Spec.occMessages, visitArgs]
  induction vs with
  | nil => rfl
  | cons v vs ih =>
    rw [List.filterMap_cons, check_eq, List.filter_cons]
    cases Spec.fails v seen loaded
    · exact ih
    · exact congrArg _ ih

theorem failingOf_cons (o : Spec.Occ) (os : List Spec.Occ) :
    Spec.failingOf (o :: os) =
      if (Spec.occMessages o).isEmpty then Spec.failingOf os else (o.path, Spec.occMessages o) :: Spec.failingOf os := by
  rw [Spec.failingOf, List.filterMap_cons]
  dsimp only
  cases (Spec.occMessages o).isEmpty <;> rfl

theorem flattenFailing_failingOf (os : List Spec.Occ) : flattenFailing (Spec.failingOf os) = occTrace os := by
  induction os with
  | nil => rfl
  | cons o os ih =>
    rw [occTrace_cons, ← ih, failingOf_cons]
    split
    next h => rw [occTrace, List.flatMap_singleton, List.isEmpty_iff.mp h]; rfl
    next => simp [flattenFailing, occTrace]

theorem failingOf_msgs_ne_nil (os : List Spec.Occ) : ∀ e ∈ Spec.failingOf os, e.2 ≠ [] := by
  induction os with
  | nil => nofun
  | cons o os ih =>
    rw [failingOf_cons]
    split
    · exact ih
    · exact List.forall_mem_cons.mpr ⟨mt List.isEmpty_iff.mpr ‹_›, ih⟩

theorem failing_msgs_ne_nil (cls : List Field) (doc : Val) : ∀ e ∈ Spec.failing cls doc, e.2 ≠ [] :=
  failingOf_msgs_ne_nil (Spec.occs cls doc)

theorem toLowerC_eq (c : Nat) : toLowerC c = (if 65 ≤ c ∧ c ≤ 90 then c + 32 else c) := rfl

theorem foldCase_cons (a : Nat) (as : List Nat) : Spec.foldCase (a :: as) = toLowerC a :: Spec.foldCase as := rfl

/-- the size test and the character loop together decide equality up to letter case -/
theorem charsMatch_eq (r s : List Nat) :
    (r.length == s.length && charsMatch r s) = (Spec.foldCase r == Spec.foldCase s) := by
  induction r generalizing s with
  | nil => cases s <;> rfl
  | cons a as ih =>
    cases s with
    | nil => rfl
    | cons b bs =>
      rw [charsMatch, foldCase_cons, foldCase_cons, List.cons_beq_cons, ← ih, List.length_cons, List.length_cons, bne]
      cases toLowerC a == toLowerC b <;> simp

theorem findEnum_eq (names : List (List Nat)) (i : Nat) (s : List Nat) :
    findEnum names i s = (names.findIdx? fun n => Spec.foldCase n == Spec.foldCase s).map (· + i) := by
  induction names generalizing i with
  | nil => rfl
  | cons r rs ih =>
    have tail : findEnum rs (i + 1) s = ((rs.findIdx? fun n => Spec.foldCase n == Spec.foldCase s).map (· + 1)).map (· + i) := by
      rw [ih, Option.map_map]
      exact congrArg (Option.map · _) (funext fun x => (Nat.add_right_comm x 1 i).symm ▸ rfl)
    rw [findEnum, List.findIdx?_cons, ← charsMatch_eq, tail]
    cases r.length == s.length <;> cases charsMatch r s <;> simp

theorem findEnum_registered (s : List Nat) : findEnum enumNames 0 s = Spec.registered s := by
  rw [findEnum_eq]
  simp [Spec.registered]

theorem registered_isSome_iff (s : List Nat) :
    (Spec.registered s).isSome = true ↔ ∃ n ∈ enumNames, Spec.foldCase n = Spec.foldCase s := by
  simp only [Spec.registered, List.findIdx?_isSome, List.any_eq_true, beq_iff_eq]

theorem loadLeaf_enm_str (s : List Nat) :
    loadLeaf .enm (some (.sc (.str s))) =
      match Spec.registered s with
      | some i => (true, .enm i)
      | none => (false, .enm enumInitial) := by
  rw [loadLeaf, findEnum_registered]
  rfl

theorem loadLeaf_enm_other {v : Option Val} (h : ¬∃ s, v = some (.sc (.str s))) :
    loadLeaf .enm v = (false, .enm enumInitial) := by
  rw [loadLeaf]
  exact fun s hs => h ⟨s, hs⟩

theorem loadLeaf_view (k : Leaf) (v : Option Val) :
    (loadLeaf k v).1 = (Spec.leafView k v).1 ∧ seenLeaf (loadLeaf k v).2 = (Spec.leafView k v).2 ∧
    (loadLeaf k v).2 = Spec.leafState k v := by
  rcases v with _ | (t | l | es)
  case some.sc =>
    cases k <;> cases t
    case enm.str s =>
      simp only [loadLeaf, Spec.leafView, Spec.leafState, findEnum_registered]
      cases Spec.registered s <;> exact ⟨rfl, rfl, rfl⟩
    all_goals exact ⟨rfl, rfl, rfl⟩
  case some.arr =>
    cases k
    case vecInt => exact ⟨rfl, congrArg _ (List.length_map _), rfl⟩
    all_goals exact ⟨rfl, rfl, rfl⟩
  all_goals cases k <;> exact ⟨rfl, rfl, rfl⟩

theorem lookup_eq (entries : List (Val × Val)) (key : String) : lookup entries key = Spec.valueAt entries key := rfl

theorem defaultFlat_eq (fields : List LeafField) : defaultFlat fields = Spec.flatState fields [] :=
  List.map_congr_left fun f _ => (loadLeaf_view f.kind none).2.2

theorem loadFlat_spec (pfx : String) (fields : List LeafField) (entries : List (Val × Val)) :
    (loadFlat pfx fields entries).1 = Spec.flatState fields entries ∧
    (loadFlat pfx fields entries).2 = occTrace (Spec.flatOccs pfx fields entries) := by
  simp only [loadFlat, List.map_map, Spec.flatState, Spec.flatOccs, occTrace, List.flatMap, lookup_eq]
  refine ⟨List.map_congr_left fun f _ => (loadLeaf_view f.kind _).2.2, congrArg _ (List.map_congr_left fun f _ => ?_)⟩
  obtain ⟨h1, h2, -⟩ := loadLeaf_view f.kind (Spec.valueAt entries f.key)
  simp only [Function.comp, visitArgs_eq, h1, h2, occTrace, List.flatMap_singleton]

/- The right sides below (`loadVecElems_spec`, `loadMapElems_spec`, `vecCut_spec`, `mapCut_spec`) spell the lambdas of
   `Spec.fieldState`, `Spec.fieldOccs` and `Spec.fieldOccsT`, and `isStrKey` the filter of `Spec.fieldOccs` and `strKeyCount`,
   as unfolding those definitions leaves them: `loadField_spec` and `fieldCut_spec` close their cases by `rfl` on that. -/

theorem loadVecElems_spec (pfx : String) (fields : List LeafField) (j : Nat) (items : List Val) :
    (loadVecElems pfx fields j items).1 = items.map (fun it => match it with
      | .map es => Spec.flatState fields es
      | _ => Spec.flatState fields []) ∧
    (loadVecElems pfx fields j items).2 = occTrace ((items.zipIdx j).flatMap fun it => match it.1 with
      | .map es => Spec.flatOccs (pfx ++ "/" ++ toString (it.2 + 1)) fields es
      | _ => []) := by
  induction items generalizing j with
  | nil => exact ⟨rfl, rfl⟩
  | cons it items ih =>
    simp only [loadVecElems, List.map_cons, List.zipIdx_cons, List.flatMap_cons, occTrace_append, (ih (j + 1)).1, (ih (j + 1)).2]
    cases it with
    | map es => exact ⟨by rw [(loadFlat_spec _ fields es).1], by rw [(loadFlat_spec _ fields es).2]⟩
    | sc t => exact ⟨by rw [defaultFlat_eq], rfl⟩
    | arr l => exact ⟨by rw [defaultFlat_eq], rfl⟩

def isStrKey (e : Val × Val) : Bool := match e.1 with | .sc (.str _) => true | _ => false

theorem strKey_cases (e : Val × Val) : (∃ k, e.1 = .sc (.str k)) ∨ isStrKey e = false := by
  unfold isStrKey
  split
  · exact .inl ⟨_, ‹_›⟩
  · exact .inr rfl

theorem loadMapElems_cons_of_not_str (pfx : String) (fields : List LeafField) {e : Val × Val} (es : List (Val × Val))
    (h : isStrKey e = false) : loadMapElems pfx fields (e :: es) = loadMapElems pfx fields es := by
  rw [loadMapElems]
  split
  · rename_i heq; rw [isStrKey, heq] at h; cases h
  · rfl

theorem loadMapElems_spec (pfx : String) (fields : List LeafField) (es : List (Val × Val)) :
    (loadMapElems pfx fields es).1 = (es.filterMap fun e => match e.1 with
      | .sc (.str k) => some (k, match e.2 with | .map es' => Spec.flatState fields es' | _ => Spec.flatState fields [])
      | _ => none) ∧
    (loadMapElems pfx fields es).2 = occTrace ((es.filter isStrKey).flatMap fun e => match e.1, e.2 with
      | .sc (.str k), .map es' => Spec.flatOccs (pfx ++ "/" ++ String.ofList (k.map Char.ofNat)) fields es'
      | _, _ => []) ∧
    (loadMapElems pfx fields es).1.length = (es.filter isStrKey).length := by
  induction es with
  | nil => exact ⟨rfl, rfl, rfl⟩
  | cons e es ih =>
    obtain ⟨k, v⟩ := e
    rcases strKey_cases (k, v) with ⟨s, rfl : k = _⟩ | hk
    · simp only [loadMapElems, List.filterMap_cons, List.filter_cons, isStrKey, if_true, List.flatMap_cons, occTrace_append,
        List.length_cons, ih.1, ih.2.1, ← ih.2.2]
      cases v with
      | map es' => exact ⟨by rw [(loadFlat_spec _ fields es').1], by rw [(loadFlat_spec _ fields es').2]; rfl, trivial⟩
      | sc t => exact ⟨by rw [defaultFlat_eq], rfl, trivial⟩
      | arr l => exact ⟨by rw [defaultFlat_eq], rfl, trivial⟩
    · rw [loadMapElems_cons_of_not_str _ _ _ hk, List.filter_cons_of_neg (by rw [hk]; nofun), List.filterMap_cons_none]
      · exact ih
      · revert hk
        unfold isStrKey
        split
        · nofun
        · exact fun _ => rfl

/-- the document has no container of the field's kind under its key: nothing is loaded, only the field's own validators
    run (or, under ThrowError, a value that is not nil is a mismatch) -/
structure Skipped (f : Field) (v : Option Val) : Prop where
  load : (loadField f v).1 = false ∧ (loadField f v).2.2 = []
  state : (loadField f v).2.1 = Spec.fieldState f v
  seen : seenField (loadField f v).2.1 = ⟨0, 0⟩
  occs : Spec.fieldOccs f v = [⟨"/" ++ f.key, f.validators, ⟨0, 0⟩, false⟩]
  occsT : Spec.fieldOccsT f v = if v.all Spec.isNil then [some ⟨"/" ++ f.key, f.validators, ⟨0, 0⟩, false⟩] else [none]
  cut : fieldCut f v = if v.any notNil then ([], true) else (visitArgs ("/" ++ f.key) f.validators ⟨0, 0⟩ false, false)

theorem field_cases {motive : Field → Option Val → Prop} (f : Field) (v : Option Val)
    (leaf : ∀ key k vs v, motive ⟨key, .leaf k, vs⟩ v)
    (obj : ∀ key fields vs es, motive ⟨key, .obj fields, vs⟩ (some (.map es)))
    (vec : ∀ key fields vs items, motive ⟨key, .vecObj fields, vs⟩ (some (.arr items)))
    (map : ∀ key fields vs es, motive ⟨key, .mapObj fields, vs⟩ (some (.map es)))
    (skipped : ∀ f v, Skipped f v → motive f v) : motive f v := by
  obtain ⟨key, kind, vs⟩ := f
  cases kind with
  | leaf k => exact leaf ..
  | obj fields =>
    have hs := congrArg FieldVal.obj (defaultFlat_eq fields)
    rcases v with _ | (t | l | es)
    case some.map => exact obj ..
    all_goals exact skipped _ _ ⟨⟨rfl, rfl⟩, hs, rfl, rfl, rfl, rfl⟩
  | vecObj fields =>
    rcases v with _ | (t | l | es)
    case some.arr => exact vec ..
    all_goals exact skipped _ _ ⟨⟨rfl, rfl⟩, rfl, rfl, rfl, rfl, rfl⟩
  | mapObj fields =>
    rcases v with _ | (t | l | es)
    case some.map => exact map ..
    all_goals exact skipped _ _ ⟨⟨rfl, rfl⟩, rfl, rfl, rfl, rfl, rfl⟩

theorem loadField_spec (f : Field) (v : Option Val) :
    (loadField f v).2.1 = Spec.fieldState f v ∧
    (loadField f v).2.2 ++ visitArgs ("/" ++ f.key) f.validators (seenField (loadField f v).2.1) (loadField f v).1
      = occTrace (Spec.fieldOccs f v) := by
  induction f, v using field_cases with
  | leaf key k vs v =>
    obtain ⟨h1, h2, h3⟩ := loadLeaf_view k v
    simp only [loadField, Spec.fieldState, Spec.fieldOccs, seenField, List.nil_append]
    exact ⟨by rw [h3], by rw [visitArgs_eq, h1, h2]⟩
  | obj key fields vs es =>
    obtain ⟨h1, h2⟩ := loadFlat_spec ("/" ++ key) fields es
    simp only [loadField, Spec.fieldState, Spec.fieldOccs, seenField, occTrace_append]
    exact ⟨by rw [h1], by rw [h2, visitArgs_eq]⟩
  | vec key fields vs items =>
    obtain ⟨h1, h2⟩ := loadVecElems_spec ("/" ++ key) fields 0 items
    simp only [loadField, Spec.fieldState, Spec.fieldOccs, seenField, occTrace_append]
    exact ⟨by rw [h1]; rfl, by rw [h2, visitArgs_eq, h1, List.length_map]; rfl⟩
  | map key fields vs es =>
    obtain ⟨h1, h2, h3⟩ := loadMapElems_spec ("/" ++ key) fields es
    simp only [loadField, Spec.fieldState, Spec.fieldOccs, seenField, occTrace_append]
    exact ⟨by rw [h1]; rfl, by rw [h2, visitArgs_eq, h3]; rfl⟩
  | skipped f v h =>
    rw [h.load.1, h.load.2, h.seen, h.occs, visitArgs_eq]
    exact ⟨h.state, rfl⟩

theorem loadRoot_spec (cls : List Field) (es : List (Val × Val)) :
    (loadRoot cls es).1 = Spec.expectedState cls (.map es) ∧
    (loadRoot cls es).2 = flattenFailing (Spec.failing cls (.map es)) := by
  rw [show Spec.failing cls (.map es) = Spec.failingOf (Spec.occs cls (.map es)) from rfl, flattenFailing_failingOf]
  simp only [loadRoot, List.map_map, Spec.expectedState, Spec.occs, occTrace_flatMap, lookup_eq]
  exact ⟨List.map_congr_left fun f _ => (loadField_spec f _).1,
    congrArg _ (List.map_congr_left fun f _ => (loadField_spec f _).2)⟩

/-- the paths that have an entry in the error map -/
def paths (m : ErrMap) : List String := m.map (·.1)

theorem add_new (m : ErrMap) (p msg : String) (h : p ∉ paths m) : m.add p msg = m ++ [(p, [msg])] := by
  have : (m.any fun e => e.1 == p) = false := by
    rw [List.any_eq_false]
    exact fun e he heq => h (List.mem_map.mpr ⟨e, he, beq_iff_eq.mp heq⟩)
  rw [ErrMap.add, this]
  rfl

theorem add_last (m : ErrMap) (p : String) (xs : List String) (msg : String) (h : p ∉ paths m) :
    (m ++ [(p, xs)]).add p msg = m ++ [(p, xs ++ [msg])] := by
  have hm : (m.map fun e => if e.1 == p then (e.1, e.2 ++ [msg]) else e) = m := by
    refine (List.map_congr_left fun e he => ?_).trans (List.map_id _)
    rw [if_neg fun heq => h (List.mem_map.mpr ⟨e, he, beq_iff_eq.mp heq⟩)]
    rfl
  rw [ErrMap.add, if_pos (by simp), List.map_append, hm]
  simp

theorem add_ne_nil (m : ErrMap) (p msg : String) : m.add p msg ≠ [] := by
  unfold ErrMap.add
  split
  · cases m <;> simp_all
  · simp

theorem runEvents_cons_ok {n : Nat} {m m' : ErrMap} {e : String × String} (es : List (String × String))
    (h : addError n m e.1 e.2 = .ok m') : runEvents n m (e :: es) = runEvents n m' es := by
  rw [runEvents, h]

theorem runEvents_cons_error {n : Nat} {m m' : ErrMap} {e : String × String} (es : List (String × String))
    (h : addError n m e.1 e.2 = .error m') : runEvents n m (e :: es) = .error m' := by
  rw [runEvents, h]

theorem runEvents_append (n : Nat) {m m' : ErrMap} {a : List (String × String)} (b : List (String × String))
    (h : runEvents n m a = .ok m') : runEvents n m (a ++ b) = runEvents n m' b := by
  induction a generalizing m with
  | nil => cases h; rfl
  | cons e a ih =>
    rw [runEvents] at h
    split at h
    · rw [List.cons_append, runEvents_cons_ok _ ‹_›]; exact ih h
    · cases h

theorem runEvents_zero (m : ErrMap) (evs : List (String × String)) :
    runEvents 0 m evs = .ok (evs.foldl (fun m e => m.add e.1 e.2) m) := by
  induction evs generalizing m with
  | nil => rfl
  | cons e evs ih => simp [runEvents, addError, ih]

theorem runEvents_ok_ne_nil (cap : Nat) (m : ErrMap) (evs : List (String × String)) (m' : ErrMap)
    (h : runEvents cap m evs = .ok m') (hne : m ≠ [] ∨ evs ≠ []) : m' ≠ [] := by
  induction evs generalizing m with
  | nil => exact Except.ok.inj h ▸ hne.resolve_right (· rfl)
  | cons e evs ih =>
    simp only [runEvents, addError] at h
    split at h
    · rename_i m2 heq
      split at heq
      · cases heq
      · exact ih m2 h (.inl (Except.ok.inj heq ▸ add_ne_nil m e.1 e.2))
    · cases h

theorem runEvents_field (n : Nat) (m : ErrMap) (p : String) (ms : List String) (hp : p ∉ paths m) (hms : ms ≠ [])
    (hn : n = 0 ∨ m.length + 1 < n) : runEvents n m (ms.map fun msg => (p, msg)) = .ok (m ++ [(p, ms)]) := by
  obtain ⟨msg, rest, rfl⟩ := List.exists_cons_of_ne_nil hms
  have hcap : ∀ xs, ¬(n > 0 ∧ n = (m ++ [(p, xs)]).length) := by
    intro xs; rw [List.length_append]; simp only [List.length_singleton]; omega
  have step : ∀ rest xs, runEvents n (m ++ [(p, xs)]) (rest.map fun msg => (p, msg)) = .ok (m ++ [(p, xs ++ rest)]) := by
    intro rest
    induction rest with
    | nil => intro xs; rw [List.append_nil]; rfl
    | cons y ys ih =>
      intro xs
      rw [List.map_cons, runEvents_cons_ok _ (by rw [addError, add_last m p xs y hp]; exact if_neg (hcap _)), ih,
        List.append_assoc]
      rfl
  rw [List.map_cons, runEvents_cons_ok _ (by rw [addError, add_new m p msg hp]; exact if_neg (hcap _))]
  exact step rest [msg]

theorem run_uncapped_from (n : Nat) (l : List (String × List String)) (m : ErrMap)
    (hnd : (paths m ++ l.map (·.1)).Nodup) (hne : ∀ e ∈ l, e.2 ≠ []) (hn : n = 0 ∨ m.length + l.length < n) :
    runEvents n m (flattenFailing l) = .ok (m ++ l) := by
  induction l generalizing m with
  | nil => rw [List.append_nil]; rfl
  | cons e l ih =>
    have hp : e.1 ∉ paths m := fun hin => (List.nodup_append.mp hnd).2.2 _ hin _ (List.mem_cons_self ..) rfl
    rw [show flattenFailing (e :: l) = (e.2.map fun msg => (e.1, msg)) ++ flattenFailing l from rfl,
      runEvents_append n _ (runEvents_field n m e.1 e.2 hp (hne e (List.mem_cons_self ..)) (by simp at hn; omega)),
      ih _ (by simpa [paths, List.append_assoc] using hnd) (fun e he => hne e (List.mem_cons_of_mem _ he))
        (by simp at hn ⊢; omega), List.append_assoc]
    rfl

theorem run_uncapped (n : Nat) (l : List (String × List String)) (hnd : (l.map (·.1)).Nodup) (hne : ∀ e ∈ l, e.2 ≠ [])
    (hn : n = 0 ∨ l.length < n) : runEvents n [] (flattenFailing l) = .ok l :=
  run_uncapped_from n l [] hnd hne (by rwa [List.length_nil, Nat.zero_add])

theorem run_reaches_cap (a b : List (String × List String)) (p msg : String) (rest : List String)
    (hnd : ((a ++ (p, msg :: rest) :: b).map (·.1)).Nodup) (hne : ∀ e ∈ a, e.2 ≠ []) :
    runEvents (a.length + 1) [] (flattenFailing (a ++ (p, msg :: rest) :: b)) = .error (a ++ [(p, [msg])]) := by
  rw [List.map_append, List.map_cons] at hnd
  have hp : p ∉ paths a := fun hin => (List.nodup_append.mp hnd).2.2 _ hin _ (List.mem_cons_self ..) rfl
  rw [flattenFailing_append, runEvents_append _ _ (run_uncapped _ a (List.nodup_append.mp hnd).1 hne (.inr (Nat.lt_succ_self _)))]
  exact runEvents_cons_error _ (by rw [addError, add_new _ _ _ hp]; exact if_pos ⟨Nat.succ_pos _, by simp⟩)

theorem run_capped (n : Nat) (hn : 0 < n) (l : List (String × List String))
    (hnd : (l.map (·.1)).Nodup) (hne : ∀ e ∈ l, e.2 ≠ []) (hge : n ≤ l.length) :
    ∃ p msg rest, l[n - 1]? = some (p, msg :: rest) ∧
      runEvents n [] (flattenFailing l) = .error (l.take (n - 1) ++ [(p, [msg])]) := by
  obtain ⟨k, rfl⟩ : ∃ k, n = k + 1 := ⟨n - 1, by omega⟩
  obtain ⟨msg, rest, hms⟩ := List.exists_cons_of_ne_nil (hne l[k] (List.getElem_mem hge))
  have hl : l.take k ++ (l[k].1, msg :: rest) :: l.drop (k + 1) = l := by
    rw [← hms, ← List.drop_eq_getElem_cons hge, List.take_append_drop]
  refine ⟨l[k].1, msg, rest, (List.getElem?_eq_getElem hge).trans (by rw [← hms]), ?_⟩
  have := run_reaches_cap (l.take k) (l.drop (k + 1)) l[k].1 msg rest (hl.symm ▸ hnd) fun e he => hne e (List.mem_of_mem_take he)
  rwa [hl, List.length_take_of_le (Nat.le_of_succ_le hge)] at this

/-- what a list of visited fields with mismatch markers means: the reports of the fields before the first marker, and
    whether there is a marker -/
def cutTrace : List (Option Spec.Occ) → List (String × String) × Bool
  | [] => ([], false)
  | none :: _ => ([], true)
  | some o :: r => (occTrace [o] ++ (cutTrace r).1, (cutTrace r).2)

theorem cutTrace_append (a b : List (Option Spec.Occ)) :
    cutTrace (a ++ b) = if (cutTrace a).2 then cutTrace a else ((cutTrace a).1 ++ (cutTrace b).1, (cutTrace b).2) := by
  induction a with
  | nil => rfl
  | cons x a ih =>
    cases x with
    | none => rfl
    | some o =>
      rw [List.cons_append, cutTrace, cutTrace, ih]
      cases h : (cutTrace a).2 <;> simp [h]

theorem cutTrace_snoc (a : List (Option Spec.Occ)) (o : Spec.Occ) :
    cutTrace (a ++ [some o]) = if (cutTrace a).2 then cutTrace a else ((cutTrace a).1 ++ occTrace [o], false) := by
  rw [cutTrace_append, cutTrace, cutTrace, List.append_nil]

theorem cutTrace_spec (l : List (Option Spec.Occ)) :
    cutTrace l = (occTrace ((l.takeWhile Option.isSome).filterMap id), l.any Option.isNone) := by
  induction l with
  | nil => rfl
  | cons x l ih =>
    cases x with
    | none => rfl
    | some o => rw [cutTrace, ih]; exact congrArg (·, _) (occTrace_cons ..).symm

theorem notNil_eq (v : Val) : notNil v = !Spec.isNil v := by
  rcases v with t | _ | _
  · cases t <;> rfl
  · rfl
  · rfl

theorem leafThrows_eq (k : Leaf) (v : Option Val) : leafThrows k v = Spec.leafMismatch k v := by
  cases v with
  | none => cases k <;> rfl
  | some v =>
    have h : (notNil v && !(loadLeaf k (some v)).1) = (!Spec.isNil v && !(Spec.leafView k (some v)).1) := by
      rw [notNil_eq, (loadLeaf_view k (some v)).1]
    rcases v with t | l | es <;> cases k
    case arr.vecInt => rfl
    all_goals exact h

theorem flatCut_spec (pfx : String) (fields : List LeafField) (entries : List (Val × Val)) :
    flatCut pfx fields entries = cutTrace (Spec.flatOccsT pfx fields entries) := by
  induction fields with
  | nil => rfl
  | cons f fields ih =>
    rw [flatCut, Spec.flatOccsT, List.map_cons, leafThrows_eq, lookup_eq]
    dsimp only
    split
    · rfl
    · obtain ⟨h1, h2, -⟩ := loadLeaf_view f.kind (Spec.valueAt entries f.key)
      rw [ih, visitArgs_eq, h1, h2]
      rfl

theorem vecCut_spec (pfx : String) (fields : List LeafField) (j : Nat) (items : List Val) :
    vecCut pfx fields j items = cutTrace ((items.zipIdx j).flatMap fun it => match it.1 with
      | .map es => Spec.flatOccsT (pfx ++ "/" ++ toString (it.2 + 1)) fields es
      | .sc .nil => []
      | _ => [none]) := by
  induction items generalizing j with
  | nil => rfl
  | cons it items ih =>
    simp only [vecCut, List.zipIdx_cons, List.flatMap_cons, cutTrace_append]
    cases it with
    | map es => simp only [flatCut_spec, ih (j + 1)]
    | arr l => rfl
    | sc t =>
      cases t
      case nil => exact ih (j + 1)
      all_goals rfl

theorem mapCut_cons_of_not_str (pfx : String) (fields : List LeafField) {e : Val × Val} (es : List (Val × Val))
    (h : isStrKey e = false) : mapCut pfx fields (e :: es) = mapCut pfx fields es := by
  rw [mapCut]
  split
  · rename_i heq; rw [isStrKey, heq] at h; cases h
  · rfl

theorem mapCut_spec (pfx : String) (fields : List LeafField) (es : List (Val × Val)) :
    mapCut pfx fields es = cutTrace ((es.filter isStrKey).flatMap fun e => match e.1, e.2 with
      | .sc (.str k), .map es' => Spec.flatOccsT (pfx ++ "/" ++ String.ofList (k.map Char.ofNat)) fields es'
      | _, .sc .nil => []
      | _, _ => [none]) := by
  induction es with
  | nil => rfl
  | cons e es ih =>
    obtain ⟨k, v⟩ := e
    rcases strKey_cases (k, v) with ⟨s, rfl : k = _⟩ | hk
    · simp only [mapCut, List.filter_cons, isStrKey, if_true, List.flatMap_cons, cutTrace_append]
      cases v with
      | map es' => simp only [flatCut_spec, ih]; rfl
      | arr l => rfl
      | sc t =>
        cases t
        case nil => exact ih
        all_goals rfl
    · rw [mapCut_cons_of_not_str _ _ _ hk, List.filter_cons_of_neg (by rw [hk]; nofun), ih]

theorem fieldCut_spec (f : Field) (v : Option Val) : fieldCut f v = cutTrace (Spec.fieldOccsT f v) := by
  induction f, v using field_cases with
  | leaf key k vs v =>
    simp only [fieldCut, Spec.fieldOccsT, leafThrows_eq]
    split
    · rfl
    · obtain ⟨h1, h2, -⟩ := loadLeaf_view k v
      simp [visitArgs_eq, h1, h2, cutTrace]
  | obj key fields vs es => simp only [fieldCut, Spec.fieldOccsT, cutTrace_snoc, flatCut_spec, visitArgs_eq]
  | vec key fields vs items => simp only [fieldCut, Spec.fieldOccsT, cutTrace_snoc, vecCut_spec, visitArgs_eq]; rfl
  | map key fields vs es => simp only [fieldCut, Spec.fieldOccsT, cutTrace_snoc, mapCut_spec, visitArgs_eq]; rfl
  | skipped f v h =>
    rw [h.cut, h.occsT, visitArgs_eq]
    cases v with
    | none => simp [cutTrace]
    | some v => cases hn : Spec.isNil v <;> simp [notNil_eq, hn, cutTrace]

theorem rootCut_spec (cls : List Field) (es : List (Val × Val)) : rootCut cls es = cutTrace (Spec.occsT cls (.map es)) := by
  induction cls with
  | nil => rfl
  | cons f cls ih =>
    simp only [Spec.occsT, List.flatMap_cons] at ih ⊢
    simp only [rootCut, cutTrace_append, fieldCut_spec, lookup_eq, ih]

theorem rootCut_failingBefore (cls : List Field) (es : List (Val × Val)) :
    (rootCut cls es).1 = flattenFailing (Spec.failingBefore cls (.map es)) ∧
    (rootCut cls es).2 = Spec.hasMismatch cls (.map es) := by
  rw [rootCut_spec, cutTrace_spec]
  exact ⟨(flattenFailing_failingOf _).symm, rfl⟩

theorem flatMap_all_some {α β : Type} {G : α → List (Option β)} {G' : α → List β} {l : List α}
    (hG : ∀ a ∈ l, (G a).all Option.isSome = true → G a = (G' a).map some)
    (h : (l.flatMap G).all Option.isSome = true) : l.flatMap G = (l.flatMap G').map some := by
  induction l with
  | nil => rfl
  | cons a l ih =>
    rw [List.flatMap_cons, List.all_append, Bool.and_eq_true] at h
    rw [List.flatMap_cons, List.flatMap_cons, List.map_append, hG a (List.mem_cons_self ..) h.1,
      ih (fun b hb => hG b (List.mem_cons_of_mem _ hb)) h.2]

theorem flatOccsT_clean (pfx : String) (fields : List LeafField) (es : List (Val × Val))
    (h : (Spec.flatOccsT pfx fields es).all Option.isSome = true) :
    Spec.flatOccsT pfx fields es = (Spec.flatOccs pfx fields es).map some := by
  rw [Spec.flatOccs, List.map_map]
  refine List.map_congr_left fun f hf => ?_
  have := List.all_eq_true.mp h _ (List.mem_map_of_mem hf)
  dsimp only [Function.comp] at this ⊢
  split
  · rw [if_pos ‹_›] at this; cases this
  · rfl

theorem fieldOccsT_clean (f : Field) (v : Option Val) (h : (Spec.fieldOccsT f v).all Option.isSome = true) :
    Spec.fieldOccsT f v = (Spec.fieldOccs f v).map some := by
  induction f, v using field_cases with
  | leaf key k vs v =>
    simp only [Spec.fieldOccsT, Spec.fieldOccs] at h ⊢
    split
    · rw [if_pos ‹_›] at h; cases h
    · rfl
  | obj key fields vs es =>
    simp only [Spec.fieldOccsT, Spec.fieldOccs, List.all_append, Bool.and_eq_true, List.map_append] at h ⊢
    rw [flatOccsT_clean _ fields es h.1]
    rfl
  | vec key fields vs items =>
    simp only [Spec.fieldOccsT, Spec.fieldOccs, List.all_append, Bool.and_eq_true, List.map_append] at h ⊢
    refine congrArg (· ++ _) (flatMap_all_some (fun ⟨v, j⟩ _ h => ?_) h.1)
    dsimp only at h ⊢
    split at h
    · exact flatOccsT_clean _ fields _ h
    · rfl
    · cases h
  | map key fields vs es =>
    simp only [Spec.fieldOccsT, Spec.fieldOccs, List.all_append, Bool.and_eq_true, List.map_append] at h ⊢
    refine congrArg (· ++ _) (flatMap_all_some (fun ⟨k, v⟩ _ h => ?_) h.1)
    dsimp only at h ⊢
    split at h
    · exact flatOccsT_clean _ fields _ h
    · split <;> first | rfl | contradiction
    · cases h
  | skipped f v h' =>
    rw [h'.occsT] at h ⊢
    rw [h'.occs]
    split
    · rfl
    · rw [if_neg ‹_›] at h; cases h

theorem any_isNone_false {α : Type} (l : List (Option α)) : l.any Option.isNone = false ↔ l.all Option.isSome = true := by
  induction l with
  | nil => simp
  | cons x l ih => cases x <;> simp [ih]

theorem occsT_clean (cls : List Field) (doc : Val) (h : Spec.hasMismatch cls doc = false) :
    Spec.occsT cls doc = (Spec.occs cls doc).map some := by
  rw [Spec.hasMismatch, any_isNone_false] at h
  rcases doc with t | l | es
  · cases t
    case nil => rfl
    all_goals cases h
  · cases h
  · exact flatMap_all_some (fun f _ => fieldOccsT_clean f _) h

theorem failingBefore_clean (cls : List Field) (doc : Val) (h : Spec.hasMismatch cls doc = false) :
    Spec.failingBefore cls doc = Spec.failing cls doc := by
  have before : ∀ l : List Spec.Occ, ((l.map some).takeWhile Option.isSome).filterMap id = l := by
    intro l
    induction l with
    | nil => rfl
    | cons o l ih => simpa using ih
  rw [Spec.failingBefore, Spec.beforeMismatch, occsT_clean cls doc h, before]
  rfl

theorem loadClass_map (cap : Nat) (cls : List Field) (es : List (Val × Val)) :
    loadClass cap cls (.map es) =
      match runEvents cap [] (flattenFailing (Spec.failing cls (.map es))) with
      | .error m => .validation m none
      | .ok m => if m.isEmpty then .ok (Spec.expectedState cls (.map es))
                 else .validation m (some (Spec.expectedState cls (.map es))) := by
  rw [loadClass, (loadRoot_spec cls es).1, (loadRoot_spec cls es).2]
  rfl

theorem loadClassT_eq (cap : Nat) (cls : List Field) (doc : Val) :
    loadClassT cap cls doc =
      if Spec.hasMismatch cls doc then
        match runEvents cap [] (flattenFailing (Spec.failingBefore cls doc)) with
        | .error m => .done (.validation m none)
        | .ok _ => .mismatched
      else .done (loadClass cap cls doc) := by
  rcases doc with t | l | es
  · cases t <;> rfl
  · rfl
  · rw [loadClassT, (rootCut_failingBefore cls es).1, (rootCut_failingBefore cls es).2]
    rfl

end BSVerif.Valid
