/-
  The scanners of Valid/TextValidators.lean against the predicates of Valid/TextSpec.lean.
  PhoneNumber: the scanner and the documented rules are both read through the class of a unit (`classify`), and every
  statement about the loop is an invariant carried through `phoneLoop_ind`.
  Email: the loop is first freed of its bookkeeping (`domScan`, `locScan`), then compared with the grammar.
-/
import BSVerif.Valid.TextValidators
import BSVerif.Valid.TextSpec

namespace BSVerif.Valid.Text
open BSVerif.Valid.TextSpec

theorem isDigit_eq_dgt (c : Nat) : isDigit c = dgt c := rfl

theorem not_dgt_of_eq {c : Nat} (h : c = 43 ∨ c = 32 ∨ c = 45 ∨ c = 40 ∨ c = 41) : dgt c = false := by
  rcases h with h | h | h | h | h <;> subst h <;> rfl

/-- The scanner and the documented rules look at a unit only through these seven classes. -/
inductive CharClass where
  | digit | plus | space | dash | «open» | close | other

def classify (c : Nat) : CharClass :=
  if dgt c then .digit else if c = 43 then .plus else if c = 32 then .space else if c = 45 then .dash
  else if c = 40 then .open else if c = 41 then .close else .other

/-- every test made on a unit, answered by its class -/
theorem tests_eq (c : Nat) :
    dgt c = (match classify c with | .digit => true | _ => false) ∧
    (c == 43) = (match classify c with | .plus => true | _ => false) ∧
    (c == 32) = (match classify c with | .space => true | _ => false) ∧
    (c == 45) = (match classify c with | .dash => true | _ => false) ∧
    (c == 40) = (match classify c with | .open => true | _ => false) ∧
    (c == 41) = (match classify c with | .close => true | _ => false) := by
  unfold classify
  by_cases hd : dgt c = true
  · have : 48 ≤ c := by simp [dgt] at hd; omega
    have : c ≠ 43 ∧ c ≠ 32 ∧ c ≠ 45 ∧ c ≠ 40 ∧ c ≠ 41 := by omega
    simp [hd, this]
  by_cases h1 : c = 43
  · subst h1; decide
  by_cases h2 : c = 32
  · subst h2; decide
  by_cases h3 : c = 45
  · subst h3; decide
  by_cases h4 : c = 40
  · subst h4; decide
  by_cases h5 : c = 41
  · subst h5; decide
  · simp [hd, h1, h2, h3, h4, h5]

theorem phoneStep_eq (st : PhoneState) (c : Nat) (rest : List Nat) :
    phoneStep st c rest = match classify c with
      | .digit => { st with digitCount := st.digitCount + 1, lastDigit := true }
      | .plus => if st.digitCount = 0 then { st with hasPlus := true } else { st with error := some .chars, lastDigit := false }
      | .space => st
      | .dash => if !st.lastDigit || onlySpaces rest then { st with error := some .dashes, lastDigit := false }
                 else { st with lastDigit := false }
      | .open => if st.inPar then { st with error := some .nested, inPar := true, lastDigit := false }
                 else { st with inPar := true, lastDigit := false }
      | .close => if st.inPar && st.lastDigit then { st with inPar := false, lastDigit := false }
                  else { st with error := some .closing, lastDigit := false }
      | .other => { st with error := some .chars, lastDigit := false } := by
  simp only [phoneStep, isDigit_eq_dgt, bne, tests_eq]
  cases classify c <;>
    simp only [Bool.and_false, Bool.and_true, Bool.not_false, Bool.not_true, Bool.false_eq_true, if_false, if_true, beq_iff_eq]
  -- left: dash, `(`, `)`, where the code resets `lastDigit` after its `if` and the statement in each branch
  all_goals split <;> rfl

theorem step_digitCount (st : PhoneState) (c : Nat) (rest : List Nat) :
    (phoneStep st c rest).digitCount = st.digitCount + match classify c with | .digit => 1 | _ => 0 := by
  rw [phoneStep_eq]
  cases classify c <;> simp only [apply_ite PhoneState.digitCount, ite_self, Nat.add_zero]

theorem step_hasPlus {st : PhoneState} {c : Nat} {rest : List Nat} (h : (phoneStep st c rest).error = none) :
    (phoneStep st c rest).hasPlus = (st.hasPlus || c == 43) := by
  revert h
  rw [phoneStep_eq, (tests_eq c).2.1]
  cases classify c <;> simp only [Bool.or_false, Bool.or_true, apply_ite PhoneState.hasPlus, ite_self, implies_true]
  split <;> simp

theorem step_ok {st : PhoneState} {c : Nat} {rest : List Nat} (h : (phoneStep st c rest).error = none) :
    match classify c with
    | .digit => phoneStep st c rest = { st with digitCount := st.digitCount + 1, lastDigit := true }
    | .plus => st.digitCount = 0 ∧ phoneStep st c rest = { st with hasPlus := true }
    | .space => phoneStep st c rest = st
    | .dash => st.lastDigit = true ∧ onlySpaces rest = false ∧ phoneStep st c rest = { st with lastDigit := false }
    | .open => st.inPar = false ∧ phoneStep st c rest = { st with inPar := true, lastDigit := false }
    | .close => st.inPar = true ∧ st.lastDigit = true ∧ phoneStep st c rest = { st with inPar := false, lastDigit := false }
    | .other => False := by
  rw [phoneStep_eq] at h ⊢
  generalize classify c = k at h ⊢
  cases k <;> dsimp only at h ⊢
  case other => cases h
  -- left: plus, dash, `(`, `)`. One branch of the `if` sets the error: `h` excludes it, which is the stated condition
  all_goals split at h <;> simp_all

theorem digits_cons (c : Nat) (cs : List Nat) :
    digits (c :: cs) = digits cs + match classify c with | .digit => 1 | _ => 0 := by
  simp only [digits, List.countP_cons, tests_eq]
  cases classify c <;> rfl

theorem anyDgt_cons (c : Nat) (cs : List Nat) :
    (c :: cs).any dgt = match classify c with | .digit => true | _ => cs.any dgt := by
  simp only [List.any_cons, tests_eq]
  cases classify c <;> rfl

theorem onlySpaces_cons (c : Nat) (cs : List Nat) :
    onlySpaces (c :: cs) = match classify c with | .space => onlySpaces cs | _ => false := by
  simp only [onlySpaces, List.all_cons, tests_eq]
  cases classify c <;> rfl

theorem allowedChar_eq (c : Nat) : allowedChar c = match classify c with | .other => false | _ => true := by
  simp only [allowedChar, cPlus, cSpace, cDash, cOpen, cClose, tests_eq]
  cases classify c <;> rfl

theorem shape_cons (prev : Prev) (inPar : Bool) (c : Nat) (cs : List Nat) :
    shape prev inPar (c :: cs) = match classify c with
      | .digit => prev != .close && shape .digit inPar cs
      | .plus => prev == .start && shape .plus inPar cs
      | .space => (prev == .digit || prev == .close) && !inPar && shape .space false cs
      | .dash => prev == .digit && !inPar && (match cs with | d :: _ => dgt d | [] => false) && shape .dash false cs
      | .open => (prev == .start || prev == .plus || prev == .space) && !inPar && shape .open true cs
      | .close => prev == .digit && inPar && shape .close false cs
      | .other => false := by
  simp only [shape, cPlus, cSpace, cDash, cOpen, cClose, tests_eq]
  cases classify c <;> rfl

theorem plusAfterDigit_cons (seen : Bool) (c : Nat) (cs : List Nat) :
    plusAfterDigit seen (c :: cs) = match classify c with
      | .digit => plusAfterDigit true cs
      | .plus => seen || plusAfterDigit seen cs
      | _ => plusAfterDigit seen cs := by
  simp only [plusAfterDigit, cPlus, tests_eq]
  cases classify c <;> simp

theorem parensOk_cons (inPar : Bool) (c : Nat) (cs : List Nat) :
    parensOk inPar (c :: cs) = match classify c with
      | .open => !inPar && parensOk true cs
      | .close => inPar && parensOk false cs
      | _ => parensOk inPar cs := by
  simp only [parensOk, cOpen, cClose, tests_eq]
  cases classify c <;> rfl

theorem nextIsDash_cons (c : Nat) (cs : List Nat) :
    nextIsDash (c :: cs) = match classify c with | .space => nextIsDash cs | .dash => true | _ => false := by
  simp only [nextIsDash, cSpace, cDash, tests_eq]
  cases classify c <;> rfl

theorem dashMisused_cons (seen : Bool) (c : Nat) (cs : List Nat) :
    dashMisused seen (c :: cs) = match classify c with
      | .dash => !seen || !cs.any dgt || nextIsDash cs || dashMisused seen cs
      | .digit => dashMisused true cs
      | _ => dashMisused seen cs := by
  simp only [dashMisused, cDash, tests_eq]
  cases classify c <;> simp

theorem loop_nil (st : PhoneState) : phoneLoop st [] = st := rfl

theorem loop_cons_ok (st : PhoneState) (c : Nat) (cs : List Nat) (h : st.error = none) :
    phoneLoop st (c :: cs) = phoneLoop (phoneStep st c cs) cs := by
  simp [phoneLoop, h]

theorem loop_error (st : PhoneState) (cs : List Nat) (h : st.error ≠ none) : phoneLoop st cs = st := by
  cases cs with
  | nil => rfl
  | cons c cs => simp [phoneLoop, Option.isSome_iff_ne_none, h]

/-- Reasoning about the loop by an invariant `P` of state and remaining units: the loop ends with the error set
    or at the end of the string; a step taken without an error keeps `P`, or what follows it is known to end in `Q`. -/
theorem phoneLoop_ind {P : PhoneState → List Nat → Prop} {Q : PhoneState → Prop}
    (stop : ∀ st cs, st.error ≠ none → P st cs → Q st)
    (done : ∀ st, P st [] → Q st)
    (step : ∀ st c cs, st.error = none → P st (c :: cs) →
      P (phoneStep st c cs) cs ∨ Q (phoneLoop (phoneStep st c cs) cs))
    (cs : List Nat) (st : PhoneState) (h : P st cs) : Q (phoneLoop st cs) := by
  induction cs generalizing st with
  | nil => exact done st h
  | cons c cs ih =>
    by_cases he : st.error = none
    · rw [loop_cons_ok st c cs he]
      exact (step st c cs he h).elim (ih _) id
    · rw [loop_error st _ he]
      exact stop st _ he h

theorem loop_tally (cs : List Nat) (st : PhoneState) (h : (phoneLoop st cs).error = none) :
    (phoneLoop st cs).digitCount = st.digitCount + digits cs ∧
    (phoneLoop st cs).hasPlus = (st.hasPlus || cs.contains 43) := by
  refine phoneLoop_ind
    (P := fun st' cs' => st'.error = none → st'.digitCount + digits cs' = st.digitCount + digits cs ∧
      (st'.hasPlus || cs'.contains 43) = (st.hasPlus || cs.contains 43))
    (Q := fun st' => st'.error = none → st'.digitCount = st.digitCount + digits cs ∧ st'.hasPlus = (st.hasPlus || cs.contains 43))
    (fun _ _ he _ h => absurd h he) (fun _ h he => by simpa [digits] using h he) ?_ cs st (fun _ => ⟨rfl, rfl⟩) h
  intro st' c cs' he h
  obtain ⟨h1, h2⟩ := h he
  refine .inl fun he' => ⟨?_, ?_⟩
  · rw [step_digitCount, ← h1, digits_cons]; omega
  · rw [step_hasPlus he', ← h2, List.contains_cons, Bool.beq_comm, Bool.or_assoc]

theorem contains_of_head? {s : List Nat} {c : Nat} (h : s.head? = some c) : s.contains c = true :=
  List.contains_iff_mem.mpr (List.mem_of_mem_head? (h ▸ rfl))

theorem shape_loop (cs : List Nat) (st : PhoneState) (prev : Prev) (h : shape prev st.inPar cs = true) (he : st.error = none)
    (hd : prev = .digit → st.lastDigit = true) (h0 : prev = .start → st.digitCount = 0) :
    (phoneLoop st cs).error = none ∧ (phoneLoop st cs).inPar = false := by
  refine phoneLoop_ind
    (P := fun st cs => st.error = none ∧ ∃ prev, shape prev st.inPar cs = true ∧ (prev = .digit → st.lastDigit = true) ∧
      (prev = .start → st.digitCount = 0))
    (Q := fun st => st.error = none ∧ st.inPar = false) (fun _ _ he h => absurd h.1 he) ?_ ?_ cs st ⟨he, prev, h, hd, h0⟩
  · rintro st ⟨he, prev, h, -⟩
    simp only [shape, Bool.and_eq_true, Bool.not_eq_true'] at h
    exact ⟨he, h.2⟩
  · rintro st c cs - ⟨he, prev, h, hd, h0⟩
    rw [shape_cons] at h
    rw [phoneStep_eq]
    generalize classify c = k at h ⊢
    cases k <;> dsimp only at h ⊢
    case other => cases h
    all_goals simp only [Bool.and_eq_true, Bool.or_eq_true, Bool.not_eq_true', beq_iff_eq, bne_iff_ne] at h
    case digit => exact .inl ⟨he, .digit, h.2, fun _ => rfl, nofun⟩
    case plus =>
      rw [if_pos (h0 h.1)]
      exact .inl ⟨he, .plus, h.2, nofun, nofun⟩
    case space => exact .inl ⟨he, .space, h.1.2 ▸ h.2, nofun, nofun⟩
    case dash =>
      have hs : onlySpaces cs = false := by
        cases cs with
        | nil => cases h.1.2
        | cons d ds =>
          have hd : dgt d = true := h.1.2
          rw [(tests_eq d).1] at hd
          rw [onlySpaces_cons]
          generalize classify d = k at hd ⊢
          cases k
          case digit => rfl
          all_goals cases hd
      rw [if_neg (by simp [hd h.1.1.1, hs])]
      exact .inl ⟨he, .dash, h.1.1.2 ▸ h.2, nofun, nofun⟩
    case «open» =>
      rw [if_neg (by simp [h.1.2])]
      exact .inl ⟨he, .open, h.2, nofun, nofun⟩
    case close =>
      rw [if_pos (by simp [h.1.2, hd h.1.1])]
      exact .inl ⟨he, .close, h.2, nofun, nofun⟩

/-- what makes `phoneFinish` answer with a message whatever the digits and the `+`: an error set in the loop, or a
    parenthesis left open -/
def Fails (st : PhoneState) : Prop := st.error ≠ none ∨ st.inPar = true

theorem fails_of_error {st : PhoneState} {cs : List Nat} (h : st.error ≠ none) : Fails (phoneLoop st cs) :=
  .inl (by rw [loop_error st cs h]; exact h)

theorem finish_none_iff (cfg : PhoneCfg) (st : PhoneState) :
    phoneFinish cfg st = none ↔
      st.error = none ∧ st.inPar = false ∧ (cfg.plusRequired = true → st.hasPlus = true) ∧
      cfg.minNumbers ≤ st.digitCount ∧ st.digitCount ≤ cfg.maxNumbers := by
  unfold phoneFinish
  -- a parenthesis left open and a required `+` that is missing each put their message over the loop's error
  cases st.inPar <;> cases st.error <;> cases st.hasPlus <;> cases cfg.plusRequired <;> simp
  -- left: the cases where none of the three answers, and the digit count decides
  all_goals split <;> simp <;> omega

theorem Fails.finish {st : PhoneState} (h : Fails st) (cfg : PhoneCfg) : phoneFinish cfg st ≠ none := fun hf => by
  obtain ⟨he, hp, -⟩ := (finish_none_iff cfg st).mp hf
  exact h.elim (· he) (by rw [hp]; nofun)

/-- To show that the scanner fails on every string with a defect `P`, only the steps that set no error need be looked at. -/
theorem loop_fails {P : PhoneState → List Nat → Prop}
    (done : ∀ st, P st [] → Fails st)
    (step : ∀ st c cs, (phoneStep st c cs).error = none → P st (c :: cs) →
      P (phoneStep st c cs) cs ∨ Fails (phoneLoop (phoneStep st c cs) cs))
    (cs : List Nat) (st : PhoneState) (h : P st cs) : Fails (phoneLoop st cs) := by
  refine phoneLoop_ind (fun _ _ he _ => .inl he) done (fun st c cs _ h => ?_) cs st h
  by_cases he : (phoneStep st c cs).error = none
  · exact step st c cs he h
  · exact .inr (fails_of_error he)

theorem loop_bad_char (cs : List Nat) (st : PhoneState) (h : cs.all allowedChar = false) : Fails (phoneLoop st cs) := by
  refine loop_fails (P := fun _ cs => cs.all allowedChar = false) (fun _ h => nomatch h) ?_ cs st h
  intro st c cs he h
  have hs := step_ok he
  rw [List.all_cons, allowedChar_eq] at h
  generalize classify c = k at hs h
  cases k
  case other => exact hs.elim
  all_goals exact .inl h

/-- the scanner takes a `+` after a digit for an invalid character -/
theorem loop_plus_after_digit (cs : List Nat) (st : PhoneState) (seen : Bool) (hs : seen = true → st.digitCount ≠ 0)
    (h : plusAfterDigit seen cs = true) : Fails (phoneLoop st cs) := by
  refine loop_fails (P := fun st cs => ∃ seen, (seen = true → st.digitCount ≠ 0) ∧ plusAfterDigit seen cs = true)
    (fun _ ⟨_, _, h⟩ => nomatch h) ?_ cs st ⟨seen, hs, h⟩
  rintro st c cs he ⟨seen, hs, h⟩
  have hd := step_digitCount st c cs
  have ho := step_ok he
  rw [plusAfterDigit_cons] at h
  generalize classify c = k at hd ho h
  cases k <;> dsimp only at hd ho h
  case digit => exact .inl ⟨true, fun _ => hd ▸ Nat.succ_ne_zero _, h⟩
  case plus =>
    cases seen
    · exact .inl ⟨false, nofun, h⟩
    · exact absurd ho.1 (hs rfl)
  all_goals exact .inl ⟨seen, hd ▸ hs, h⟩

theorem loop_parens (cs : List Nat) (st : PhoneState) (h : parensOk st.inPar cs = false) : Fails (phoneLoop st cs) := by
  refine loop_fails (P := fun st cs => parensOk st.inPar cs = false) (fun st h => .inr (by simpa [parensOk] using h)) ?_ cs st h
  intro st c cs he h
  have ho := step_ok he
  rw [parensOk_cons] at h
  generalize classify c = k at ho h
  cases k <;> dsimp only at ho h
  case «open» => rw [ho.2]; rw [ho.1] at h; exact .inl h
  case close => rw [ho.2.2]; rw [ho.1] at h; exact .inl h
  case plus => rw [ho.2]; exact .inl h
  case dash => rw [ho.2.2]; exact .inl h
  all_goals rw [ho]; exact .inl h

theorem loop_next_dash (cs : List Nat) (st : PhoneState) (hl : st.lastDigit = false) (h : nextIsDash cs = true) :
    Fails (phoneLoop st cs) := by
  refine loop_fails (P := fun st cs => st.lastDigit = false ∧ nextIsDash cs = true) (fun _ h => nomatch h.2) ?_ cs st ⟨hl, h⟩
  rintro st c cs he ⟨hl, h⟩
  have ho := step_ok he
  rw [nextIsDash_cons] at h
  generalize classify c = k at ho h
  cases k <;> dsimp only at ho h
  case space => rw [ho]; exact .inl ⟨hl, h⟩
  case dash => rw [hl] at ho; cases ho.1
  all_goals cases h

/-- inside a parenthesis with no digit left: it cannot be closed any more -/
theorem loop_inpar_no_digit (cs : List Nat) (st : PhoneState) (hp : st.inPar = true) (hl : st.lastDigit = false)
    (h : cs.any dgt = false) : Fails (phoneLoop st cs) := by
  refine loop_fails (P := fun st cs => st.inPar = true ∧ st.lastDigit = false ∧ cs.any dgt = false)
    (fun _ h => .inr h.1) ?_ cs st ⟨hp, hl, h⟩
  rintro st c cs he ⟨hp, hl, h⟩
  have ho := step_ok he
  rw [anyDgt_cons] at h
  generalize classify c = k at ho h
  cases k <;> dsimp only at ho h
  case digit => cases h
  case plus => rw [ho.2]; exact .inl ⟨hp, hl, h⟩
  case space => rw [ho]; exact .inl ⟨hp, hl, h⟩
  case dash => rw [hl] at ho; cases ho.1
  case «open» => rw [hp] at ho; cases ho.1
  case close => rw [hl] at ho; cases ho.2.1

theorem loop_after_dash (cs : List Nat) (st : PhoneState) (hl : st.lastDigit = false) (h0 : st.digitCount ≠ 0)
    (h : cs.any dgt = false) (hs : onlySpaces cs = false) : Fails (phoneLoop st cs) := by
  refine loop_fails (P := fun st cs => st.lastDigit = false ∧ st.digitCount ≠ 0 ∧ cs.any dgt = false ∧ onlySpaces cs = false)
    (fun _ h => nomatch h.2.2.2) ?_ cs st ⟨hl, h0, h, hs⟩
  rintro st c cs he ⟨hl, h0, h, hs⟩
  have ho := step_ok he
  rw [anyDgt_cons] at h
  rw [onlySpaces_cons] at hs
  generalize classify c = k at ho h hs
  cases k <;> dsimp only at ho h hs
  case digit => cases h
  case plus => exact absurd ho.1 h0
  case space => rw [ho]; exact .inl ⟨hl, h0, h, hs⟩
  case dash => rw [hl] at ho; cases ho.1
  case «open» => rw [ho.2]; exact .inr (loop_inpar_no_digit cs _ rfl rfl h)
  case close => rw [hl] at ho; cases ho.2.1

theorem loop_dash_misused (cs : List Nat) (st : PhoneState) (seen : Bool)
    (hinv : st.lastDigit = true → seen = true ∧ st.digitCount ≠ 0) (h : dashMisused seen cs = true) :
    Fails (phoneLoop st cs) := by
  refine loop_fails
    (P := fun st cs => ∃ seen, (st.lastDigit = true → seen = true ∧ st.digitCount ≠ 0) ∧ dashMisused seen cs = true)
    (fun _ ⟨_, _, h⟩ => nomatch h) ?_ cs st ⟨seen, hinv, h⟩
  rintro st c cs he ⟨seen, hinv, h⟩
  have ho := step_ok he
  rw [dashMisused_cons] at h
  generalize classify c = k at ho h
  cases k <;> dsimp only at ho h
  case digit => rw [ho]; exact .inl ⟨true, fun _ => ⟨rfl, Nat.succ_ne_zero _⟩, h⟩
  case plus => rw [ho.2]; exact .inl ⟨seen, hinv, h⟩
  case space => rw [ho]; exact .inl ⟨seen, hinv, h⟩
  case dash =>
    obtain ⟨hseen, h0⟩ := hinv ho.1
    rw [ho.2.2]
    simp only [hseen, Bool.not_true, Bool.false_or, Bool.or_eq_true, Bool.not_eq_true'] at h
    rcases h with (h | h) | h
    · exact .inr (loop_after_dash cs _ rfl h0 h ho.2.1)
    · exact .inr (loop_next_dash cs _ rfl h)
    · exact .inl ⟨true, nofun, h⟩
  case «open» => rw [ho.2]; exact .inl ⟨seen, nofun, h⟩
  case close => rw [ho.2.2]; exact .inl ⟨seen, nofun, h⟩

theorem phone_pass_iff (cfg : PhoneCfg) (s : List Nat) :
    phone cfg true s = none ↔
      (phoneLoop {} s).error = none ∧ (phoneLoop {} s).inPar = false ∧ (cfg.plusRequired = true → s.contains 43 = true) ∧
      cfg.minNumbers ≤ digits s ∧ digits s ≤ cfg.maxNumbers := by
  refine (finish_none_iff cfg _).trans (and_congr_right fun he => ?_)
  obtain ⟨hc, hp⟩ := loop_tally s {} he
  rw [hc, hp, Nat.zero_add]
  rfl

theorem phone_shape_pass_iff (cfg : PhoneCfg) (s : List Nat) (hs : wellShaped s = true) :
    phone cfg true s = none ↔
      (cfg.plusRequired = true → s.contains 43 = true) ∧ cfg.minNumbers ≤ digits s ∧ digits s ≤ cfg.maxNumbers := by
  obtain ⟨he, hp⟩ := shape_loop s {} .start hs rfl nofun fun _ => rfl
  simp only [phone_pass_iff, he, hp, true_and]

theorem phone_broken_fails (min max : Nat) (plus : Bool) (s : List Nat)
    (h : (phoneBroken min max plus s).isSome = true) : phone ⟨min, max, plus⟩ true s ≠ none := by
  intro hp
  obtain ⟨-, -, hpl, hlo, hhi⟩ := (phone_pass_iff _ s).mp hp
  have ok : ¬Fails (phoneLoop {} s) := fun hf => hf.finish _ hp
  have h1 : s.all allowedChar = true := Bool.of_not_eq_false fun h => ok (loop_bad_char s {} h)
  have h2 : (plus && !s.contains cPlus) = false := by
    cases plus
    · rfl
    · exact congrArg not (hpl rfl)
  have h3 : plusAfterDigit false s = false := Bool.of_not_eq_true fun h => ok (loop_plus_after_digit s {} false nofun h)
  have h4 : parensOk false s = true := Bool.of_not_eq_false fun h => ok (loop_parens s {} h)
  have h5 : dashMisused false s = false := Bool.of_not_eq_true fun h => ok (loop_dash_misused s {} false nofun h)
  have h6 : (decide (digits s < min) || decide (max < digits s)) = false := by
    simp only [Bool.or_eq_false_iff, decide_eq_false_iff_not]
    exact ⟨Nat.not_lt.mpr hlo, Nat.not_lt.mpr hhi⟩
  simp only [phoneBroken, h1, h2, h3, h4, h5, h6, Bool.not_true, Bool.false_eq_true, if_false] at h
  cases h

/-- the errors the loop can set; `nested` comes with the parenthesis open -/
def LoopErr (st : PhoneState) : Prop :=
  st.error = none ∨ st.error = some .dashes ∨ (st.error = some .nested ∧ st.inPar = true) ∨
  st.error = some .closing ∨ st.error = some .chars

theorem loop_loopErr (cs : List Nat) (st : PhoneState) (h : LoopErr st) : LoopErr (phoneLoop st cs) := by
  refine phoneLoop_ind (P := fun st _ => LoopErr st) (fun _ _ _ h => h) (fun _ h => h) ?_ cs st h
  intro st c cs he _
  rw [phoneStep_eq]
  refine .inl ?_
  cases classify c <;> dsimp only
  case digit | space => exact .inl he
  case plus =>
    split
    · exact .inl he
    · exact .inr (.inr (.inr (.inr rfl)))
  case dash =>
    split
    · exact .inr (.inl rfl)
    · exact .inl he
  case «open» =>
    split
    · exact .inr (.inr (.inl ⟨rfl, rfl⟩))
    · exact .inl he
  case close =>
    split
    · exact .inl he
    · exact .inr (.inr (.inr (.inl rfl)))
  case other => exact .inr (.inr (.inr (.inr rfl)))

/-- one unit of a label: `n` = size of the label before it -/
def domUnitOk (n c : Nat) (rest : List Nat) : Bool :=
  (if c == 45 then !(n == 0 || rest.isEmpty || rest.head? == some 46)
   else if 48 ≤ c && c ≤ 57 then n != 0
   else !(c < 65 || c > 122 || (c > 90 && c < 97))) && decide (n + 1 ≤ 63)

/-- the domain-part scanner without the bookkeeping: `n` = size of the current label so far -/
def domScan : Nat → List Nat → Bool
  | _, [] => true
  | n, c :: rest =>
    if c == 46 then n != 0 && !rest.isEmpty && domScan 0 rest
    else domUnitOk n c rest && domScan (n + 1) rest

/-- the local-part scanner: `pd` = the previous unit was a dot (or there is none), `i` = the position -/
def locScan : Bool → Nat → List Nat → Bool
  | _, _, [] => false
  | pd, i, c :: rest =>
    if c == 46 then !(pd || rest.isEmpty) && locScan true (i + 1) rest
    else if c == 64 then !(decide (i > 64) || pd) && !rest.isEmpty && decide (rest.length ≤ 255) && domScan 0 rest
    else !localCharRejected c && locScan false (i + 1) rest

theorem domScan_dot (n : Nat) (cs : List Nat) : domScan n (46 :: cs) = (n != 0 && !cs.isEmpty && domScan 0 cs) := rfl

theorem domScan_unit (n : Nat) {c : Nat} (cs : List Nat) (h : c ≠ 46) :
    domScan n (c :: cs) = (domUnitOk n c cs && domScan (n + 1) cs) := by
  rw [domScan, if_neg (by simpa using h)]

theorem locScan_dot (pd : Bool) (i : Nat) (cs : List Nat) :
    locScan pd i (46 :: cs) = (!(pd || cs.isEmpty) && locScan true (i + 1) cs) := rfl

theorem locScan_at (pd : Bool) (i : Nat) (cs : List Nat) :
    locScan pd i (64 :: cs) = (!(decide (i > 64) || pd) && !cs.isEmpty && decide (cs.length ≤ 255) && domScan 0 cs) := rfl

theorem locScan_unit (pd : Bool) (i : Nat) {c : Nat} (cs : List Nat) (h46 : c ≠ 46) (h64 : c ≠ 64) :
    locScan pd i (c :: cs) = (!localCharRejected c && locScan false (i + 1) cs) := by
  rw [locScan, if_neg (by simpa using h46), if_neg (by simpa using h64)]

theorem emailLoop_invalid (strSize i : Int) (st : EmailState) (cs : List Nat) (h : st.isValid = false) :
    emailLoop strSize i st cs = st := by
  cases cs with
  | nil => rfl
  | cons c cs => simp [emailLoop, h]

theorem emailLoop_cons (strSize i : Int) (st : EmailState) (c : Nat) (cs : List Nat) (h : st.isValid = true) :
    emailLoop strSize i st (c :: cs) = emailLoop strSize (i + 1) (emailStep strSize i st c cs.head?) cs := by
  simp [emailLoop, h]

theorem emailFinish_invalid (strSize : Int) (st : EmailState) (h : st.isValid = false) : emailFinish strSize st = false := by
  simp [emailFinish, h]

theorem ite_invalid (p : Prop) [Decidable p] (st : EmailState) :
    (if p then st.invalid else st) = { st with isValid := st.isValid && !decide p } := by
  by_cases h : p <;> simp [EmailState.invalid, h]

/- The invariant of the email loop, from here to `emailLoop_local`: `hm : st.lastDotPos + 1 + m = i` — `m` units were read since the
   last dot or `@` (or the start: `lastDotPos = -1`), in the domain part the size `n` of the label so far (`hn`); `hi : i = iN` — the
   `int` index as the `Nat` that `locScan` counts; `hlen` — the units left are the rest of the `strSize` units. -/

theorem last_iff_nil {strSize i : Int} {cs : List Nat} (h : i + 1 + cs.length = strSize) :
    (strSize - 1 == i) = cs.isEmpty ∧ (i + 1 == strSize) = cs.isEmpty := by
  cases cs with
  | nil => simp at h; simp [← h]
  | cons c cs => simp at h; simp; omega

theorem afterDot_iff {a i : Int} {m : Nat} (h : a + 1 + m = i) : (a + 1 == i) = (m == 0) := by
  cases m with
  | zero => simp at h; simp [h]
  | succ m => simp; omega

theorem emailStep_dot {strSize i : Int} {st : EmailState} {cs : List Nat} {m : Nat}
    (hlen : i + 1 + cs.length = strSize) (hm : st.lastDotPos + 1 + m = i) :
    emailStep strSize i st 46 cs.head? =
      { st with isValid := st.isValid && !(m == 0 || cs.isEmpty), lastDotPos := i, currentLabelSize := 0 } := by
  simp only [emailStep, beq_self_eq_true, if_true, ite_invalid, Bool.decide_eq_true, (last_iff_nil hlen).1, afterDot_iff hm]

theorem emailStep_domain {strSize i : Int} {st : EmailState} {c : Nat} {cs : List Nat} {n : Nat} (h46 : c ≠ 46)
    (hl : st.isLocalPart = false) (hlen : i + 1 + cs.length = strSize) (hn : st.currentLabelSize = n) :
    emailStep strSize i st c cs.head? =
      { st with isValid := st.isValid && domUnitOk n c cs, currentLabelSize := n + 1 } := by
  have e1 : ((n : Int) + 1 == 1) = (n == 0) := by cases n <;> simp <;> omega
  have e2 : (!decide ((n : Int) + 1 > 63)) = decide (n + 1 ≤ 63) := by
    rw [← decide_not]; exact decide_eq_decide.mpr (by omega)
  unfold emailStep domUnitOk
  have h46' : (c == 46) = false := beq_false_of_ne h46
  simp only [h46', if_false, hl, Bool.false_eq_true, domainPartLabelMaxSize, hn]
  cases h45 : c == 45
  case true => simp only [if_true, ite_invalid, Bool.decide_eq_true, (last_iff_nil hlen).2, e1, e2, Bool.and_assoc]
  cases hd : (48 ≤ c && c ≤ 57) <;>
    simp only [Bool.false_eq_true, if_false, if_true, ite_invalid, Bool.decide_eq_true, e1, e2, Bool.and_assoc, bne]

theorem emailStep_at {strSize i : Int} {st : EmailState} {next : Option Nat} {m iN : Nat} (hl : st.isLocalPart = true)
    (hi : i = iN) (hm : st.lastDotPos + 1 + m = i) :
    emailStep strSize i st 64 next =
      { st with isValid := st.isValid && !(decide (iN > 64) || m == 0), isLocalPart := false, startDomainPos := i + 1,
                currentLabelSize := 0, lastDotPos := i } := by
  have e : decide (i > 64) = decide (iN > 64) := decide_eq_decide.mpr (by omega)
  unfold emailStep localPartMaxSize
  simp only [hl, show (64 == 46) = false from rfl, Bool.false_eq_true, if_false, if_true,
    beq_self_eq_true, ite_invalid, Bool.decide_eq_true, afterDot_iff hm, e]

theorem emailStep_local {strSize i : Int} {st : EmailState} {c : Nat} {next : Option Nat} (h46 : c ≠ 46) (h64 : c ≠ 64)
    (hl : st.isLocalPart = true) :
    emailStep strSize i st c next =
      { st with isValid := st.isValid && !localCharRejected c, currentLabelSize := st.currentLabelSize + 1 } := by
  simp only [emailStep, hl, beq_false_of_ne h46, beq_false_of_ne h64, Bool.false_eq_true, if_false, if_true, ite_invalid,
    Bool.decide_eq_true]

theorem emailLoop_domain (strSize : Int) (cs : List Nat) (i : Int) (st : EmailState) (n : Nat)
    (hl : st.isLocalPart = false) (hn : st.currentLabelSize = n) (hm : st.lastDotPos + 1 + n = i)
    (hlen : i + cs.length = strSize) :
    (emailLoop strSize i st cs).isValid = (st.isValid && domScan n cs) ∧ (emailLoop strSize i st cs).isLocalPart = false ∧
    (emailLoop strSize i st cs).startDomainPos = st.startDomainPos := by
  induction cs generalizing i st n with
  | nil => exact ⟨(Bool.and_true _).symm, hl, rfl⟩
  | cons c cs ih =>
    cases hv : st.isValid
    · rw [emailLoop_invalid _ _ _ _ hv]
      exact ⟨hv, hl, rfl⟩
    have hlen' : i + 1 + (cs.length : Int) = strSize := by rw [← hlen, List.length_cons]; omega
    rw [emailLoop_cons strSize i st c cs hv, Bool.true_and]
    by_cases h46 : c = 46
    · subst h46
      rw [emailStep_dot hlen' hm]
      refine (ih (i + 1) _ 0 ?_ ?_ ?_ hlen').imp_left (Eq.trans · ?_)
      · exact hl
      · rfl
      · exact Int.add_zero _
      · rw [domScan_dot, hv, Bool.true_and, Bool.not_or, bne, Bool.and_assoc]
    · rw [emailStep_domain h46 hl hlen' hn]
      refine (ih (i + 1) _ (n + 1) ?_ ?_ ?_ hlen').imp_left (Eq.trans · ?_)
      · exact hl
      · rfl
      · simp only [Int.natCast_add]; omega
      · rw [domScan_unit n cs h46, hv, Bool.true_and]

theorem emailLoop_local (strSize : Int) (cs : List Nat) (i : Int) (st : EmailState) (m iN : Nat)
    (hi : i = iN) (hl : st.isLocalPart = true) (hm : st.lastDotPos + 1 + m = i) (hlen : i + cs.length = strSize) :
    emailFinish strSize (emailLoop strSize i st cs) = (st.isValid && locScan (m == 0) iN cs) := by
  induction cs generalizing i st m iN with
  | nil => simp [emailLoop, emailFinish, locScan, hl]
  | cons c cs ih =>
    cases hv : st.isValid
    · rw [emailLoop_invalid _ _ _ _ hv, emailFinish_invalid _ _ hv]; rfl
    have hlen' : i + 1 + (cs.length : Int) = strSize := by rw [← hlen, List.length_cons]; omega
    have hi' : i + 1 = (iN + 1 : Nat) := by rw [hi]; rfl
    rw [emailLoop_cons strSize i st c cs hv, Bool.true_and]
    by_cases h46 : c = 46
    · subst h46
      rw [emailStep_dot hlen' hm]
      refine (ih (i + 1) _ 0 (iN + 1) hi' ?_ ?_ hlen').trans ?_
      · exact hl
      · exact Int.add_zero _
      · rw [locScan_dot, hv, Bool.true_and]; rfl
    by_cases h64 : c = 64
    · subst h64
      rw [emailStep_at hl hi hm]
      obtain ⟨h1, h2, h3⟩ := emailLoop_domain strSize cs (i + 1)
        { st with isValid := st.isValid && !(decide (iN > 64) || m == 0), isLocalPart := false, startDomainPos := i + 1,
                  currentLabelSize := 0, lastDotPos := i } 0 rfl rfl (Int.add_zero _) hlen'
      have e : decide (strSize - (i + 1) > 255) = !decide (cs.length ≤ 255) := by
        rw [← decide_not]; exact decide_eq_decide.mpr (by omega)
      unfold emailFinish domainPartMaxSize
      rw [h1, h2, h3, (last_iff_nil hlen').2, e, hv, locScan_at]
      generalize cs.isEmpty = E, decide (cs.length ≤ 255) = L
      cases E <;> cases L <;> simp
    · rw [emailStep_local h46 h64 hl]
      refine (ih (i + 1) _ (m + 1) (iN + 1) hi' ?_ ?_ hlen').trans ?_
      · exact hl
      · simp only [Int.natCast_add]; omega
      · rw [locScan_unit _ _ cs h46 h64, hv, Bool.true_and, show (m + 1 == 0) = false from rfl]

theorem emailCore_eq_locScan (s : List Nat) : emailCore s = locScan true 0 s :=
  emailLoop_local s.length s 0 {} 0 0 rfl rfl rfl (Int.zero_add _)

/-- the three tests of the domain part are the character classes of the grammar: a hyphen is neither first nor last in
    its label, a digit is not first -/
theorem domUnitOk_eq (n c : Nat) (rest : List Nat) :
    domUnitOk n c rest =
      (ldh c && (n != 0 || alpha c) && (!(rest.isEmpty || rest.head? == some 46) || letDig c) && decide (n + 1 ≤ 63)) := by
  unfold domUnitOk
  rw [Bool.or_assoc, bne]
  generalize (n == 0) = z, (rest.isEmpty || rest.head? == some 46) = E, decide (n + 1 ≤ 63) = S
  by_cases h45 : c = 45
  · subst h45; cases z <;> cases E <;> rfl
  have h45' : (c == 45) = false := beq_false_of_ne h45
  by_cases hd : dgt c = true
  · have ha : alpha c = false := by simp [alpha, dgt] at hd ⊢; omega
    rw [h45', if_neg Bool.false_ne_true, show (48 ≤ c && c ≤ 57) = dgt c from rfl, hd, if_pos rfl, ldh, letDig, ha, hd]
    cases z <;> cases E <;> rfl
  · rw [Bool.not_eq_true] at hd
    have ha : (!(c < 65 || c > 122 || (c > 90 && c < 97))) = alpha c := by
      rw [Bool.eq_iff_iff]; simp [alpha]; omega
    rw [h45', if_neg Bool.false_ne_true, show (48 ≤ c && c ≤ 57) = dgt c from rfl, hd, if_neg Bool.false_ne_true, ha, ldh, letDig, hd,
      cDash, h45']
    cases alpha c <;> cases z <;> cases E <;> rfl

theorem allowedLocalPartChars_eq : allowedLocalPartChars = (List.range 127).map fun c => if atext c then c else 0 := by
  decide +kernel

/-- every atext unit is ASCII, so the table of 127 entries has one for it -/
theorem atext_lt {c : Nat} (h : atext c = true) : c < 127 := by
  simp only [atext, Bool.or_eq_true] at h
  rcases h with (ha | ha) | ha
  · simp [alpha] at ha; omega
  · simp [dgt] at ha; omega
  · -- one of the nineteen signs
    have hm : c ∈ _ := List.contains_iff_mem.mp ha
    exact (by decide : ∀ d ∈ _, d < 127) c hm

theorem localCharRejected_eq (c : Nat) : localCharRejected c = !atext c := by
  unfold localCharRejected
  rw [allowedLocalPartChars_eq, List.length_map, List.length_range, List.getD_eq_getElem?_getD, List.getElem?_map]
  by_cases h : c < 127
  · rw [List.getElem?_range h, decide_eq_false (Nat.not_le.mpr h), Option.map_some, Option.getD_some, Bool.false_or]
    cases ha : atext c
    · rfl
    · have : c ≠ 0 := by rintro rfl; cases ha
      simpa using this
  · rw [Bool.of_not_eq_true fun ha => h (atext_lt ha), decide_eq_true (Nat.le_of_not_lt h)]
    rfl

theorem splitDots_ne_nil (cs : List Nat) : ∃ l ls, splitDots cs = l :: ls := by
  induction cs with
  | nil => exact ⟨[], [], rfl⟩
  | cons c cs ih =>
    obtain ⟨l, ls, h⟩ := ih
    by_cases h46 : c = 46
    · exact ⟨[], splitDots cs, by simp [splitDots, cDot, h46]⟩
    · exact ⟨c :: l, ls, by simp [splitDots, cDot, h46, h]⟩

theorem splitDots_dot (cs : List Nat) : splitDots (46 :: cs) = [] :: splitDots cs := by
  simp [splitDots, cDot]

theorem splitDots_other (c : Nat) (cs l : List Nat) (ls : List (List Nat)) (h46 : c ≠ 46) (h : splitDots cs = l :: ls) :
    splitDots (c :: cs) = (c :: l) :: ls := by
  simp [splitDots, cDot, h46, h]

theorem splitDots_head_empty (cs l : List Nat) (ls : List (List Nat)) (h : splitDots cs = l :: ls) :
    l.isEmpty = (cs.isEmpty || cs.head? == some 46) := by
  cases cs with
  | nil => simp [splitDots] at h; simp [h.1]
  | cons d ds =>
    by_cases h46 : d = 46
    · subst h46
      rw [splitDots_dot] at h
      simp at h; simp [← h.1]
    · obtain ⟨l', ls', h'⟩ := splitDots_ne_nil ds
      rw [splitDots_other d ds l' ls' h46 h'] at h
      simp at h
      simp [← h.1, h46]

/-- the label begins with a letter -/
def firstAlpha (l : List Nat) : Bool :=
  match l.head? with
  | some c => alpha c
  | none => false

/-- the rest `l` of a label of which `n` units are already read -/
def contOk (n : Nat) (l : List Nat) : Bool :=
  decide (n + l.length ≤ 63) && l.all ldh && (n != 0 || firstAlpha l) && (l.isEmpty || lastOk l)

theorem lastOk_cons (c : Nat) (l : List Nat) : lastOk (c :: l) = if l.isEmpty then letDig c else lastOk l := by
  cases l with
  | nil => rfl
  | cons d ds => simp [lastOk, List.getLast?_cons_cons]

theorem unit_contOk (n c : Nat) (rest l : List Nat)
    (lE : l.isEmpty = (rest.isEmpty || rest.head? == some 46)) :
    contOk n (c :: l) = (domUnitOk n c rest && contOk (n + 1) l) := by
  have hsz : decide (n + (l.length + 1) ≤ 63) = (decide (n + 1 ≤ 63) && decide (n + 1 + l.length ≤ 63)) := by
    rw [← Bool.decide_and]; exact decide_eq_decide.mpr (by omega)
  rw [domUnitOk_eq, ← lE]
  simp only [contOk, List.length_cons, List.all_cons, firstAlpha, List.head?_cons, List.isEmpty_cons, Bool.false_or,
    lastOk_cons, hsz, show (n + 1 != 0) = true from rfl, Bool.true_or, Bool.and_true]
  cases l.isEmpty <;> simp only [Bool.not_true, Bool.not_false, Bool.false_or, Bool.true_or, Bool.and_true, if_true,
    Bool.false_eq_true, if_false] <;> ac_rfl

/-- the labels of a domain of which the first `n` units of the first label are already read -/
def labelsOk (n : Nat) (cs : List Nat) : Bool :=
  match splitDots cs with
  | l :: ls => contOk n l && ls.all (contOk 0)
  | [] => false

theorem labelsOk_zero (cs : List Nat) : labelsOk 0 cs = (splitDots cs).all (contOk 0) := by
  obtain ⟨l, ls, h⟩ := splitDots_ne_nil cs
  simp [labelsOk, h]

theorem domUnitOk_size {n c : Nat} {rest : List Nat} (h : domUnitOk n c rest = true) : n + 1 ≤ 63 := by
  simp only [domUnitOk, Bool.and_eq_true, decide_eq_true_eq] at h
  exact h.2

/-- `n ≠ 0 ∨ cs ≠ []`: at the start of a label with nothing left the two differ (`domScan 0 [] = true`, the empty label is not ok);
    `domScan` and `locScan` test `!rest.isEmpty` before they start a label. -/
theorem domScan_eq (cs : List Nat) : ∀ n, n ≤ 63 → (n ≠ 0 ∨ cs ≠ []) → domScan n cs = labelsOk n cs := by
  induction cs with
  | nil =>
    intro n hn h0
    have : n ≠ 0 := by rcases h0 with h | h; exact h; exact absurd rfl h
    simp [domScan, labelsOk, splitDots, contOk, hn, this]
  | cons c cs ih =>
    intro n hn _
    by_cases h46 : c = 46
    · subst h46
      simp only [domScan, beq_self_eq_true, if_true, labelsOk, splitDots_dot]
      have hc : contOk n [] = (n != 0) := by simp [contOk, hn, firstAlpha]
      rw [hc, ← labelsOk_zero]
      cases cs with
      | nil => simp [labelsOk, splitDots, contOk, firstAlpha]
      | cons d ds =>
        rw [ih 0 (by omega) (Or.inr (by simp))]
        simp
    · obtain ⟨l, ls, hs⟩ := splitDots_ne_nil cs
      have lE := splitDots_head_empty cs l ls hs
      simp only [domScan, beq_iff_eq, h46, if_false, labelsOk, splitDots_other c cs l ls h46 hs, unit_contOk n c cs l lE]
      cases hu : domUnitOk n c cs
      · simp
      · rw [ih (n + 1) (domUnitOk_size hu) (Or.inl (by omega))]
        simp [labelsOk, hs]

theorem alpha_not_dgt {c : Nat} (h : alpha c = true) : dgt c = false := by
  simp [alpha] at h
  simp [dgt]
  omega

theorem contOk_zero (l : List Nat) : contOk 0 l = (labelOk l && !startsWithDigit l) := by
  cases l with
  | nil => simp [contOk, labelOk, firstAlpha, firstOk]
  | cons c t =>
    simp only [contOk, labelOk, firstAlpha, firstOk, startsWithDigit, List.head?_cons, List.isEmpty_cons, Bool.false_or,
      Nat.zero_add, bne_self_eq_false, letDig]
    cases ha : alpha c
    · cases dgt c <;> simp
    · simp [alpha_not_dgt ha]

theorem all_and_not {α : Type} (p q : α → Bool) (l : List α) :
    l.all (fun x => p x && !q x) = (l.all p && !l.any q) := by
  induction l with
  | nil => rfl
  | cons x xs ih =>
    simp only [List.all_cons, List.any_cons, ih]
    cases p x <;> cases q x <;> simp

theorem labelsOk_zero_spec (d : List Nat) :
    (decide (d.length ≤ 255) && labelsOk 0 d) = (domainOk d && !digitFirstLabel d) := by
  have : (contOk 0) = (fun l => labelOk l && !startsWithDigit l) := funext contOk_zero
  rw [labelsOk_zero, this, all_and_not, domainOk, digitFirstLabel, Bool.and_assoc]

/-- the atoms of the rest `l` of a local part; `pd`: the previous unit was a dot (or there is none), so the first piece is a
    whole atom and must not be empty -/
def atomsOk (pd : Bool) (l : List Nat) : Bool :=
  match splitDots l with
  | a :: as => (!pd || !a.isEmpty) && a.all atext && as.all atomOk
  | [] => false

theorem atomsOk_true (l : List Nat) : atomsOk true l = (splitDots l).all atomOk := by
  obtain ⟨a, as, h⟩ := splitDots_ne_nil l
  simp [atomsOk, h, atomOk]

theorem atomsOk_nil (pd : Bool) : atomsOk pd [] = !pd := by
  simp [atomsOk, splitDots]

theorem atomsOk_dot (pd : Bool) (l : List Nat) : atomsOk pd (46 :: l) = (!pd && atomsOk true l) := by
  rw [atomsOk_true, atomsOk, splitDots_dot]
  simp

theorem atomsOk_unit (pd : Bool) {c : Nat} (l : List Nat) (h46 : c ≠ 46) : atomsOk pd (c :: l) = (atext c && atomsOk false l) := by
  obtain ⟨a, as, hs⟩ := splitDots_ne_nil l
  simp [atomsOk, splitDots_other c l a as h46 hs, hs, Bool.and_assoc]

theorem afterAt_cons {c : Nat} (cs : List Nat) (h64 : c ≠ 64) : afterAt (c :: cs) = afterAt cs := by
  simp [afterAt, cAt, h64]

theorem localPart_cons {c : Nat} (cs : List Nat) (h64 : c ≠ 64) : localPart (c :: cs) = c :: localPart cs := by
  simp [localPart, cAt, h64]

theorem locScan_eq (cs : List Nat) (pd : Bool) (i : Nat) : locScan pd i cs =
    match afterAt cs with
    | none => false
    | some d => atomsOk pd (localPart cs) && decide (i + (localPart cs).length ≤ 64) && decide (d.length ≤ 255) && labelsOk 0 d := by
  induction cs generalizing pd i with
  | nil => rfl
  | cons c cs ih =>
    by_cases h64 : c = 64
    · subst h64
      rw [locScan_at, show afterAt (64 :: cs) = some cs from rfl, show localPart (64 :: cs) = [] from rfl, atomsOk_nil,
        Bool.not_or,
        show decide (i + [].length ≤ 64) = !decide (i > 64) by rw [← decide_not]; exact decide_eq_decide.mpr (by simp)]
      dsimp only
      cases cs with
      | nil => simp [labelsOk, splitDots, contOk, firstAlpha]
      | cons d ds =>
        rw [domScan_eq (d :: ds) 0 (by omega) (.inr nofun)]
        simp only [List.isEmpty_cons, Bool.not_false, Bool.and_true]
        ac_rfl
    rw [afterAt_cons cs h64, localPart_cons cs h64, List.length_cons, ← Nat.add_assoc, Nat.add_right_comm]
    by_cases h46 : c = 46
    · subst h46
      rw [locScan_dot, ih, atomsOk_dot]
      cases hd : afterAt cs with
      | none => simp
      | some d =>
        cases cs with
        | nil => cases hd
        | cons _ _ => simp [Bool.and_assoc]
    · rw [locScan_unit pd i cs h46 h64, ih, atomsOk_unit pd _ h46, localCharRejected_eq, Bool.not_not]
      cases afterAt cs <;> simp [Bool.and_assoc]

theorem emailCore_spec (s : List Nat) : emailCore s =
    match afterAt s with
    | none => false
    | some d => localOk (localPart s) && domainOk d && !digitFirstLabel d := by
  rw [emailCore_eq_locScan, locScan_eq]
  cases afterAt s with
  | none => rfl
  | some d =>
    simp only [atomsOk_true, Nat.zero_add]
    rw [Bool.and_assoc, labelsOk_zero_spec, localOk]
    cases (splitDots (localPart s)).all atomOk <;> cases decide ((localPart s).length ≤ 64) <;> simp

end BSVerif.Valid.Text
